/-
  C18 — pdl-runtime `Packet` trait: the derived methods obey their laws, for EVERY implementor.
-/
import Pdlv.Runtime

namespace Pdlv
namespace Runtime

variable {α : Type}

/-- complete characterisation of `decode_full` in terms of `decode` -/
theorem decode_full_spec (P : Impl α) (b : Bytes) :
    decodeFull P b = (match P.decode b with
      | .ok (v, []) => .ok v
      | .ok (_, _ :: _) => .err .trailingBytes
      | .err e => .err e
      | .panic h => .panic h) := by
  unfold decodeFull
  cases P.decode b with
  | ok p => obtain ⟨v, r⟩ := p; cases r <;> simp
  | _ => rfl

/-- `decode_full(b)` equals `decode(b)` when the remainder is empty … -/
theorem decode_full_ok (P : Impl α) (b : Bytes) (v : α) (h : P.decode b = .ok (v, [])) :
    decodeFull P b = .ok v := by
  rw [decode_full_spec, h]

/-- … and is `TrailingBytesError` otherwise. -/
theorem decode_full_trailing (P : Impl α) (b : Bytes) (v : α) (r : Bytes) (hr : r ≠ [])
    (h : P.decode b = .ok (v, r)) : decodeFull P b = .err .trailingBytes := by
  cases r with
  | nil => exact absurd rfl hr
  | cons x xs => rw [decode_full_spec, h]

/-- errors of `decode` pass through `decode_full` unchanged -/
theorem decode_full_err (P : Impl α) (b : Bytes) (e : DecErr) (h : P.decode b = .err e) :
    decodeFull P b = .err e := by
  rw [decode_full_spec, h]

/-- `decode_mut` advances the slice to exactly `decode`'s remainder and returns its value -/
theorem decode_mut_advances (P : Impl α) (b : Bytes) (v : α) (r : Bytes)
    (h : P.decode b = .ok (v, r)) : decodeMut P b = (.ok v, r) := by
  simp [decodeMut, h]

/-- `decode_mut` leaves the slice unchanged on error -/
theorem decode_mut_untouched (P : Impl α) (b : Bytes) (e : DecErr) (h : P.decode b = .err e) :
    decodeMut P b = (.err e, b) := by
  simp [decodeMut, h]

/-- the slice after `decode_mut` is always either the input or `decode`'s remainder -/
theorem decode_mut_slice (P : Impl α) (b : Bytes) :
    (decodeMut P b).2 = b ∨ ∃ v, P.decode b = .ok (v, (decodeMut P b).2) := by
  unfold decodeMut
  cases h : P.decode b with
  | ok p => obtain ⟨v, r⟩ := p; right; exact ⟨v, rfl⟩
  | _ => left; rfl

/-- `encode_to_vec` and `encode_to_bytes` produce the same bytes -/
theorem encode_to_vec_eq_bytes (P : Impl α) (v : α) : encodeToVec P v = encodeToBytes P v := rfl

/-- encoding appends to a non-empty buffer without disturbing its content, and what it appends
    is what `encode_to_vec` returns -/
theorem encode_appends (P : Impl α) (v : α) (buf out : Bytes) (h : encodeInto P v buf = .ok out) :
    ∃ bs, encodeToVec P v = .ok bs ∧ out = buf ++ bs := by
  unfold encodeInto at h
  cases he : P.encode v with
  | ok bs =>
    simp only [he, Outcome.ok.injEq] at h
    exact ⟨bs, by simp [encodeToVec, encodeInto, he], h.symm⟩
  | _ => simp [he] at h

/-- errors are the same whatever buffer is supplied -/
theorem encode_err_indep (P : Impl α) (v : α) (buf : Bytes) (e : EncErr)
    (h : encodeToVec P v = .err e) : encodeInto P v buf = .err e := by
  unfold encodeToVec encodeInto at *
  cases he : P.encode v with
  | err e' => simp only [he] at h ⊢; exact h
  | ok _ | panic _ => simp [he] at h

/-- non-vacuity: the laws instantiated at a generated packet -/
example : decodeFull (ofBody { e := .little } (.root "P" (.cons (.chunk [.scalar "a" 8]) .nil))) [7, 9]
    = .err .trailingBytes := by rfl

end Runtime
end Pdlv
