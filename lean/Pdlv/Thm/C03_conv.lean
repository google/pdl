/-
  Pdlv.Thm.C03_conv — C03, the converse of `encode_ideal_eq_ref` and the two directions together: on `convWfBody` the
  reference-mode encoder succeeds exactly on the values the bit-level reference `Pdlv.Ref` assigns an encoding
  to, and writes that encoding.  The induction is `conv_all` (Lemmas/RefConv).
-/
import Pdlv.Lemmas.RefConv

namespace Pdlv

/-- **C03, converse.**  For every packet or struct without parent in `convWfBody` (C03's hypotheses plus
    bit-field and scalar widths of at most 64; decidable, evaluated per run), both byte orders and every value:
    if doc/reference.md (`Ref.encode`) assigns the value an encoding, the reference-mode encoder succeeds with
    exactly those bytes — no range check, size / count / element-size computation, flag-consistency check or
    padding bound of the encoder rejects a value the reference can encode. -/
theorem reference_encoding_is_written (e : Endian) (nm : String) (items : Items)
    (hw : convWfBody (.root nm items) = true) (v : Value) (bs : Bytes)
    (h : Ref.encode e (.root nm items) v = some bs) :
    encBody { e := e, mode := .ideal } (.root nm items) v = .ok bs := by
  have := ty_conv { e := e, mode := .ideal } rfl (.struct nm (.root nm items)) v bs (by simpa [convWfBody] using hw)
    (by simpa [Ref.encTy, Ref.encode] using h)
  simpa [encTy] using this

theorem convWf_refWf (nm : String) (items : Items) (hw : convWfBody (.root nm items) = true) :
    refWfBody (.root nm items) = true := by
  simp only [convWfBody, convWfTy, Bool.and_eq_true, decide_eq_true_eq] at hw
  simp [refWfBody, hw.1.1.2, hw.1.2, hw.2]

/-- **C03, both directions**: the reference-mode encoder succeeds with `bs` iff `bs` is the reference encoding —
    every range check, size / count / element-size computation, flag consistency check and padding bound of the
    encoder is the one doc/reference.md prescribes, neither more nor less.  (On a value the reference cannot
    encode the outcome is an `EncodeError`, or, for a value that is not of the generated type, the model's
    `badValue`: C05 `encBody_no_panic`.) -/
theorem encode_succeeds_iff_reference (e : Endian) (nm : String) (items : Items)
    (hw : convWfBody (.root nm items) = true) (v : Value) (bs : Bytes) :
    encBody { e := e, mode := .ideal } (.root nm items) v = .ok bs ↔ Ref.encode e (.root nm items) v = some bs :=
  ⟨encode_ideal_eq_ref e _ (convWf_refWf nm items hw) v bs, reference_encoding_is_written e nm items hw v bs⟩

/-- and away from array size modifiers the same holds of the model of the EMITTED encoder, in the direction
    that matters: every value the reference encodes is written with the reference bytes -/
theorem reference_encoding_is_written_rust (e : Endian) (nm : String) (items : Items)
    (hw : convWfBody (.root nm items) = true) (hn : noModBody (.root nm items) = true) (v : Value) (bs : Bytes)
    (h : Ref.encode e (.root nm items) v = some bs) :
    encBody { e := e, mode := .rust } (.root nm items) v = .ok bs :=
  encBody_ideal_to_rust e _ v bs hn (reference_encoding_is_written e nm items hw v bs h)

/-- non-vacuity: `packet P { _count_(x): 8, f: 1, _reserved_: 7, x: 16[], o: 8 if f = 1, _payload_ }` is in the class -/
example : convWfBody (.root "P" (.cons (.chunk [.count "x" 8, .flag "f" [("o", 1)], .reserved 7])
    (.cons (.array "x" (.scalar 16) (.static 2) .countField none)
    (.cons (.optional "o" (.scalar 8) "f" 1) (.cons (.payload .last) .nil))))) = true := by decide

end Pdlv
