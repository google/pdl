/-
  C15 — Enum conversions are exact over the entire value space.

  The property theorems; their hypothesis `EnumWF` (what the analyzer guarantees of an accepted enum) and
  the notions they go through are in Pdlv/Lemmas/Enum.lean.  The model of the emitted
  Rust match arms is `Enum.rustFromArms?`; it is tied to the emitted code on every run by
  extracting the arms from pdlc's output and comparing them with the model's table
  (`bin/check C15`), so that `rust_from_exact` is a statement about the emitted program.
-/
import Pdlv.Lemmas.Enum
import Pdlv.Lemmas.List

namespace Pdlv
namespace Enum

/-- **Rust `TryFrom<uN>` is exact.**  For an enum accepted by the analyzer, the emitted
    `match` (first matching arm) returns, for *every* value `x` of the backing type,
    exactly what the specification prescribes — including `Err` for `x ≥ 2^w` and for
    undeclared values of closed enums.  In particular some arm always matches
    (`= some _`): the emitted match is exhaustive, as rustc demands. -/
theorem rust_from_exact (e : Decl) (hwf : EnumWF e) (arms : Arms)
    (harms : rustFromArms? e = some arms) (b : Nat) (hb : backing? e.width = some b)
    (x : Nat) (hx : x < 2 ^ b) :
    evalArms arms x = some (spec e x) := by
  unfold rustFromArms? at harms
  rw [hb] at harms
  cases hc : isComplete? e.tags (scalarMax e.width) with
  | none => simp [hc] at harms
  | some c =>
    simp only [hc, Option.some.injEq] at harms
    subst harms
    have hmax := scalarMax_eq e.width hwf.width_le
    have hpos := Nat.two_pow_pos e.width
    unfold fromArmsWith
    -- the arms of the declared tags compute `specTags` (first match = named tag first: `NoLateShadow`)
    rw [evalArms_append, tagArms_eval _ hwf.no_shadow, evalArms_append, spec_eq]
    cases hst : specTags e.tags x with
    | some r =>
      have hlt : ¬ 2 ^ e.width ≤ x := fun hge =>
        hwf.not_covered hge (Classical.byContradiction fun h => by simp [(specTags_eq_none_iff _ _).mpr h] at hst)
      simp [hlt, Option.orElse]
    | none =>
      have hnc := (specTags_eq_none_iff _ _).mp hst
      by_cases hge : 2 ^ e.width ≤ x
      · -- out of the enum's width: a default arm, if there is one, stops at 2^w - 1 and misses; the wildcard arm
        -- fires, and it is there because the backing type is wider than the enum
        have hne : b ≠ e.width := fun heq => Nat.lt_irrefl _ (Nat.lt_of_lt_of_le (heq ▸ hx) hge)
        have hmiss : evalArms (defaultArms c (otherTag e.tags) e.width) x = none := by
          have : ¬ x ≤ 2 ^ e.width - 1 := Nat.not_le.mpr (Nat.sub_one_lt_of_le hpos hge)
          unfold defaultArms
          split
          · simp [evalArms, Pat.matches, hmax, this]
          · rfl
        simp [hge, hmiss, wildArms, hne, evalArms, Pat.matches, Rhs.eval, Option.orElse]
      · -- a complete enum cannot miss x
        have hle : x ≤ 2 ^ e.width - 1 := Nat.le_sub_one_of_lt (Nat.not_le.mp hge)
        have hcf : c = false := by
          cases c with
          | false => rfl
          | true => exact absurd (complete_covers e.tags _ hc x (hmax ▸ hle)).covered hnc
        subst hcf
        cases otherTag e.tags with
        | some o =>
          -- open: the default arm `0 ..= 2^w - 1` fires
          simp [hge, defaultArms, evalArms, Pat.matches, Rhs.eval, hmax, hle, Option.orElse]
        | none =>
          -- closed and incomplete: no default arm; the wildcard arm is there for that reason, and fires
          simp [hge, defaultArms, wildArms, evalArms, Pat.matches, Rhs.eval, Option.orElse]

/-- **Integers at or above 2^w are rejected** (spec level; with `rust_from_exact` this is
    the emitted code's behaviour on every value of the backing type). -/
theorem spec_rejects_wide (e : Decl) (x : Nat) (h : 2 ^ e.width ≤ x) : spec e x = .err := by
  simp [spec, h]

/-- **Success iff tag, range or default** (the "succeeds iff" clause of the property). -/
theorem spec_ok_iff (e : Decl) (x : Nat) (hx : x < 2 ^ e.width) :
    spec e x ≠ .err ↔
      (∃ t ∈ namedTags e.tags, t.value = x) ∨ (∃ r ∈ ranges e.tags, inRng r x = true) ∨
      (otherTag e.tags).isSome := by
  rw [spec_ne_err_iff e x hx, Covered, or_assoc]

/-- **Converting back yields x** (`impl From<&E> for uN` after `TryFrom`). -/
theorem rust_into_from (e : Decl) (hwf : EnumWF e) (x : Nat) (h : spec e x ≠ .err) :
    rustInto e (spec e x) = some x := by
  unfold spec at *
  split
  · rename_i hge; simp [hge] at h
  · rename_i hge
    simp only [hge, ↓reduceIte] at h
    cases hf : (namedTags e.tags).find? (·.value == x) with
    | some t =>
      -- identifiers are distinct, so looking `t.id` up finds `t` again
      have : (namedTags e.tags).find? (·.id == t.id) = some t :=
        List.find?_of_nodup_key (fun (t : TagV) => some t.id) (by rw [List.filterMap_eq_map']; exact hwf.ids_nodup)
          (List.mem_of_find?_eq_some hf) rfl
      simpa [rustInto, this] using List.find?_some hf
    | none =>
      simp only [hf] at h ⊢
      cases hg : (ranges e.tags).find? (inRng · x) with
      | some r => simp [rustInto]
      | none =>
        simp only [hg] at h ⊢
        cases ho : otherTag e.tags with
        | some o => simp [rustInto]
        | none => simp [ho] at h

/-- **Widening preserves the value**: `uN::from(e) as uM` for `M ≥ N` is the identity on
    values below `2^N` (Rust's `as` between unsigned types reduces modulo `2^M`). -/
theorem rust_widening (n m v : Nat) (hnm : n ≤ m) (hv : v < 2 ^ n) : v % 2 ^ m = v :=
  Nat.mod_eq_of_lt (Nat.lt_of_lt_of_le hv (Nat.pow_le_pow_right (by omega) hnm))

/-- **C++ `IsValidE(x)` holds iff conversion succeeds**, for closed enums. -/
theorem cxx_is_valid_iff (e : Decl) (hn : NestedInside e.tags) (hclosed : otherTag e.tags = none)
    (x : Nat) (hx : x < 2 ^ e.width) :
    cxxIsValid e x = true ↔ spec e x ≠ .err := by
  rw [spec_ne_err_iff e x hx, cxxIsValid_iff_topCovered, ← covered_iff_topCovered hn, hclosed]
  simp

/-- closed enums reject everything at or above 2^w in C++ too -/
theorem cxx_rejects_wide (e : Decl) (hwf : EnumWF e) (x : Nat) (h : 2 ^ e.width ≤ x) :
    cxxIsValid e x = false :=
  Bool.eq_false_iff.mpr fun hv => hwf.not_covered h ((cxxIsValid_iff_topCovered e x).mp hv).covered

/-- **Python `from_int` succeeds iff conversion succeeds**, for x below 2^w. -/
theorem py_from_int_ok_iff (e : Decl) (hn : NestedInside e.tags) (x : Nat) (hx : x < 2 ^ e.width) :
    pyFromInt e x ≠ .raise ↔ spec e x ≠ .err := by
  rw [spec_ne_err_iff e x hx, pyFromInt_ne_raise_iff_topCovered, ← covered_iff_topCovered hn]

/-- closed enums: Python rejects everything at or above 2^w -/
theorem py_rejects_wide_closed (e : Decl) (hwf : EnumWF e) (hclosed : otherTag e.tags = none)
    (x : Nat) (h : 2 ^ e.width ≤ x) : pyFromInt e x = .raise :=
  Classical.byContradiction fun hne =>
    ((pyFromInt_ne_raise_iff_topCovered e x).mp hne).elim (fun hc => hwf.not_covered h hc.covered) (by simp [hclosed])

/-- **Negation witness (H21).** The full statement "Python rejects integers at or above
    2^w" is *false* of `from_int` on open enums: the emitted handler is `return v`. -/
def pyOpenWitness : Decl := ⟨3, [.value ⟨"A", 0, {}⟩, .other "UNKNOWN" {}]⟩
theorem py_open_accepts_wide : pyFromInt pyOpenWitness 200 = .int 200 ∧ 2 ^ pyOpenWitness.width ≤ 200 := by
  decide

/-! ### Non-vacuity: the hypotheses are met by a concrete, non-trivial enum
    (`IncompleteTruncatedOpenWithRange` of the repository's snapshot test). -/

def exE : Decl :=
  ⟨3, [.value ⟨"A", 0, {}⟩, .range "B" 1 6 [⟨"X", 1, {}⟩, ⟨"Y", 2, {}⟩] {}, .other "UNKNOWN" {}]⟩

example : EnumWF exE where
  width_le := by decide
  named_lt := by decide
  range_ok := by decide
  no_shadow := by simp [exE, NoLateShadow, namedTags]
  ids_nodup := by decide

example : rustFromArms? exE = some
    [(.lit 0, .named "A"), (.lit 1, .named "X"), (.lit 2, .named "Y"), (.rng 1 6, .inRange "B"),
     (.rng 0 7, .dflt "UNKNOWN"), (.wild, .err)] := by decide

example : NestedInside exE.tags := by simp [exE, NestedInside]

end Enum
end Pdlv
