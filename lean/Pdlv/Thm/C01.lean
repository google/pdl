/-
  C01 — generated Rust parsers are total and memory-safe on arbitrary bytes.

  Statements about the decoder model `Pdlv.decBody` (Pdlv/Wire.lean), which is compared with
  the emitted decoders on every run (`bin/check C01`).
-/
import Pdlv.Lemmas.Eats

namespace Pdlv

/-! ### the decoder never panics — except at the four recorded hazard sites of the emitted code -/

/-- the hazards of the decoder emitted at the pinned tree (known findings KF-C01-count-mul,
    -custom-read, -esize-zero-chunks, -esize-zero-rem); in reference mode a layout that meets `decWfBody`
    has none -/
def knownHazard : Hazard → Bool
  | .mulOverflow | .customRead | .chunksZero | .remZero => true
  | _ => false

/-- an outcome that is not a panic, or — in the model of the emitted code only — one of the
    recorded hazards -/
def Safe {α : Type} (m : Mode) (o : Dec α) : Prop :=
  match o with
  | .panic h => m = .rust ∧ knownHazard h = true
  | _ => True

theorem Safe.bind {α β : Type} {m : Mode} {x : Dec α} {f : α → Dec β}
    (hx : Safe m x) (hf : ∀ a, x = .ok a → Safe m (f a)) : Safe m (x.bind f) := by
  cases x with
  | ok a => exact hf a rfl
  | err e => trivial
  | panic h => exact hx

theorem Safe.ite {α : Type} {m : Mode} {p : Prop} [Decidable p] {x y : Dec α}
    (hx : p → Safe m x) (hy : ¬ p → Safe m y) : Safe m (if p then x else y) := by
  split
  · exact hx ‹_›
  · exact hy ‹_›

theorem Safe.ite_err {α : Type} {m : Mode} {p : Prop} [Decidable p] {e : DecErr} {x : Dec α}
    (h : ¬ p → Safe m x) : Safe m (if p then .err e else x) :=
  Safe.ite (fun _ => trivial) h

theorem Safe.ok {α : Type} (m : Mode) (a : α) : Safe m (Outcome.ok a : Dec α) := trivial
theorem Safe.err {α : Type} (m : Mode) (e : DecErr) : Safe m (Outcome.err e : Dec α) := trivial

def SafeF (m : Mode) (f : Bytes → Dec (Value × Bytes)) : Prop := ∀ bs, Safe m (f bs)

/-- an unguarded fixed-width read: with `k` octets available it succeeds consuming exactly `k`,
    or fails with an error -/
def StaticStep (f : Bytes → Dec (Value × Bytes)) (k : Nat) : Prop :=
  ∀ bs, k ≤ bs.length → (∃ v, f bs = .ok (v, bs.drop k)) ∨ (∃ e, f bs = .err e)

theorem decRepeat_safe (m : Mode) (f : Bytes → Dec (Value × Bytes)) (hf : SafeF m f) :
    ∀ n bs, Safe m (decRepeat f n bs) := by
  intro n
  induction n with
  | zero => exact fun _ => trivial
  | succ n ih => exact fun bs => Safe.bind (hf bs) fun x _ => Safe.bind (ih x.2) fun _ _ => trivial

theorem decRepeat_static_safe (m : Mode) (f : Bytes → Dec (Value × Bytes)) (k : Nat) (hf : StaticStep f k) :
    ∀ n bs, n * k ≤ bs.length → Safe m (decRepeat f n bs) := by
  intro n
  induction n with
  | zero => exact fun _ _ => trivial
  | succ n ih =>
    intro bs hlen
    rw [Nat.succ_mul] at hlen
    rw [decRepeat]
    rcases hf bs (Nat.le_trans (Nat.le_add_left ..) hlen) with ⟨v, hv⟩ | ⟨e, he⟩
    · rw [hv, Outcome.ok_bind]
      exact Safe.bind (ih _ (by rw [List.length_drop]; exact Nat.le_sub_of_add_le hlen)) fun _ _ => trivial
    · rw [he]; trivial

theorem decWhile_safe (m : Mode) (f : Bytes → Dec (Value × Bytes)) (hf : SafeF m f)
    (hprog : ∀ bs v r, bs ≠ [] → f bs = .ok (v, r) → r.length < bs.length) :
    ∀ fuel bs, bs.length < fuel → Safe m (decWhile f fuel bs) := by
  intro fuel
  induction fuel with
  | zero => exact fun _ h => (Nat.not_lt_zero _ h).elim
  | succ fuel ih =>
    intro bs h
    rw [decWhile]
    refine Safe.ite (fun _ => trivial) fun hne => Safe.bind (hf bs) ?_
    intro ⟨v, bs'⟩ hx
    have hlt := hprog bs v bs' (fun h0 => hne (h0 ▸ rfl)) hx
    refine Safe.ite (fun _ => ?_) fun h => (h hlt).elim
    exact Safe.bind (ih bs' (Nat.lt_of_lt_of_le hlt (Nat.le_of_lt_succ h))) fun _ _ => trivial

theorem decChunked_safe (m : Mode) (f : Bytes → Dec (Value × Bytes)) (hf : SafeF m f) (es : Nat) :
    ∀ n bs, Safe m (decChunked f es n bs) := by
  intro n
  induction n with
  | zero => exact fun _ => trivial
  | succ n ih =>
    intro bs
    rw [decChunked]
    exact Safe.ite (fun _ => trivial) fun _ => Safe.bind (hf _) fun _ _ =>
      Safe.ite (fun _ => Safe.bind (ih _) fun _ _ => trivial) fun _ => trivial

theorem safe_ideal_iff {α : Type} {o : Dec α} : Safe .ideal o ↔ o.isPanic = false := by
  cases o <;> simp [Safe]

theorem decRepeat_no_panic (f : Bytes → Dec (Value × Bytes)) (hf : ∀ bs, (f bs).isPanic = false) :
    ∀ n bs, (decRepeat f n bs).isPanic = false :=
  fun n bs => safe_ideal_iff.mp (decRepeat_safe .ideal f (fun bs => safe_ideal_iff.mpr (hf bs)) n bs)

/-- **The `while !span.is_empty()` loops terminate**: with fuel `length + 1` the model never
    reports `nonTermination` for an element decoder that never panics itself and consumes at
    least one octet whenever it succeeds on a non-empty span. -/
theorem decWhile_terminates (f : Bytes → Dec (Value × Bytes))
    (hnp : ∀ bs, (f bs).isPanic = false)
    (hprog : ∀ bs v r, bs ≠ [] → f bs = .ok (v, r) → r.length < bs.length) :
    ∀ fuel bs, bs.length < fuel → (decWhile f fuel bs).isPanic = false :=
  fun fuel bs h =>
    safe_ideal_iff.mp (decWhile_safe .ideal f (fun bs => safe_ideal_iff.mpr (hnp bs)) hprog fuel bs h)

theorem umulM_safe (m : Mode) (a b : Nat) : Safe m (umulM m a b) := by
  rw [umulM_eq]
  refine Safe.ite (fun _ => trivial) fun _ => ?_
  cases m
  · exact ⟨rfl, rfl⟩
  · trivial

/-- what an array case needs from its element decoder, by element width -/
def ElemOk (m : Mode) (el : Bytes → Dec (Value × Bytes)) : ElemWidth → Prop
  | .static w => 0 < w ∧ (SafeF m el ∨ StaticStep el w)
  | .dynamic => SafeF m el
  | .unknown => SafeF m el ∧ ∀ bs v r, bs ≠ [] → el bs = .ok (v, r) → r.length < bs.length

/-- what the guards have to establish for the loop they select -/
def ArrPlan.Ok (m : Mode) (el : Bytes → Dec (Value × Bytes)) (len : Nat) : ArrPlan → Prop
  | .err _ => True
  | .panic h => m = .rust ∧ knownHazard h = true
  | .rep n => SafeF m el ∨ ∃ w, StaticStep el w ∧ n * w ≤ len
  | .whl k => k ≤ len ∧ SafeF m el ∧ ∀ bs v r, bs ≠ [] → el bs = .ok (v, r) → r.length < bs.length
  | .chunked .. => SafeF m el
  | .zero _ => SafeF m el

section
variable {m : Mode} {el : Bytes → Dec (Value × Bytes)} {len : Nat}

theorem ArrPlan.Ok.need {o : Option Nat} {k : Nat → ArrPlan} (ho : o.isSome = true)
    (hk : ∀ a, (k a).Ok m el len) : (ArrPlan.need o k).Ok m el len := by
  cases o with
  | none => cases ho
  | some a => exact hk a

theorem ArrPlan.Ok.ofDec {x : Dec Nat} {k : Nat → ArrPlan} (hx : Safe m x)
    (hk : ∀ a, x = .ok a → (k a).Ok m el len) : (ArrPlan.ofDec x k).Ok m el len := by
  cases x with
  | ok a => exact hk a rfl
  | err e => trivial
  | panic h => exact hx

theorem ArrPlan.Ok.divides {w sz : Nat} {zero : ArrPlan} {k : Nat → ArrPlan} (hz : w = 0 → zero.Ok m el len)
    (hk : 0 < w → sz / w * w ≤ sz → (k (sz / w)).Ok m el len) : (ArrPlan.divides w sz zero k).Ok m el len := by
  unfold ArrPlan.divides
  split
  · exact hz ‹_›
  · split
    · trivial
    · exact hk (Nat.pos_of_ne_zero ‹_›) (Nat.div_mul_le_self sz w)

theorem ArrPlan.Ok.rep_static {w n : Nat} (h : SafeF m el ∨ StaticStep el w) (hn : n * w ≤ len) :
    (ArrPlan.rep n).Ok m el len :=
  h.imp id fun h => ⟨w, h, hn⟩

/-- the twelve cases: with the context entries bound and an element decoder as the layout promises,
    every guard of `decArray` leads to an error, a recorded hazard, or a loop that is safe to run -/
theorem arrPlan_ok {ew : ElemWidth} {shape : Shape} {cnt siz esz : Option Nat}
    (hkeys : arrayKeysOk ew shape cnt siz esz = true) (hel : ElemOk m el ew) :
    (arrPlan m ew shape cnt siz esz len).Ok m el len := by
  have fits : ∀ {tot : Nat} {p : ArrPlan}, (tot ≤ len → p.Ok m el len) →
      ArrPlan.Ok m el len (if len < tot then .err .length else p) := by
    intro tot p hp; split
    · trivial
    · exact hp (Nat.not_lt.mp ‹_›)
  have mul : ∀ {n w tot : Nat}, umulM m n w = .ok tot → tot ≤ len → n * w ≤ len :=
    fun h hl => (umulM_ok_iff.mp h).2 ▸ hl
  obtain ⟨hcnt, hsiz, hesz⟩ := arrayKeysOk_iff.mp hkeys
  unfold arrPlan
  cases ew with
  | «static» w =>
    obtain ⟨hw, hs⟩ := hel
    have zero : w = 0 → ArrPlan.Ok m el len (.panic .remZero) := fun h => absurd h (Nat.ne_of_gt hw)
    cases shape with
    | «static» n => exact fits fun hl => .rep_static hs hl
    | countField =>
      exact .need (hcnt rfl) fun n => .ofDec (umulM_safe m n w) fun tot ht => fits fun hl => .rep_static hs (mul ht hl)
    | sizeField =>
      exact .need (hsiz rfl) fun sz => fits fun hl => .divides zero fun _ hd => .rep_static hs (Nat.le_trans hd hl)
    | unknown => exact .divides zero fun _ hd => .rep_static hs hd
  | dynamic =>
    have hs : SafeF m el := hel
    have chunksZero : ∀ n, (ArrPlan.chunksZero m n).Ok m el len := by
      intro n; cases m
      · exact ⟨rfl, rfl⟩
      · exact hs
    have remZero : ∀ sz, ArrPlan.Ok m el len
        (if m == .ideal then (if sz = 0 then .rep 0 else .err .arraySize) else .panic .remZero) := by
      intro sz; cases m
      · exact ⟨rfl, rfl⟩
      · simp only [beq_self_eq_true, ↓reduceIte]; split
        · exact .inl hs
        · trivial
    cases shape with
    | «static» n =>
      refine .need (hesz rfl) fun es => .ofDec ?_ fun tot _ => fits fun _ => ?_
      · split
        · trivial
        · exact umulM_safe m n es
      · split
        · exact chunksZero n
        · exact hs
    | countField =>
      refine .need (hesz rfl) fun es => .need (hcnt rfl) fun n => .ofDec (umulM_safe m n es) fun tot _ => fits fun _ => ?_
      split
      · exact chunksZero n
      · exact hs
    | sizeField =>
      exact .need (hesz rfl) fun es => .need (hsiz rfl) fun sz => fits fun _ => .divides (fun _ => remZero sz) fun _ _ => hs
    | unknown => exact .need (hesz rfl) fun es => .divides (fun _ => remZero len) fun _ _ => hs
  | unknown =>
    obtain ⟨hs, hprog⟩ := hel
    cases shape with
    | «static» n => exact .inl hs
    | countField => exact .need (hcnt rfl) fun n => .inl hs
    | sizeField => exact .need (hsiz rfl) fun sz => fits fun hl => ⟨hl, hs, hprog⟩
    | unknown => exact ⟨Nat.le_refl _, hs, hprog⟩

theorem runArr_safe {sp : Bytes} {p : ArrPlan} (hp : p.Ok m el sp.length) : Safe m (runArr el sp p) := by
  cases p with
  | err e => trivial
  | panic h => exact hp
  | rep n =>
    rcases hp with h | ⟨w, h, hn⟩
    · exact decRepeat_safe m el h n sp
    · exact decRepeat_static_safe m el w h n sp hn
  | whl k =>
    obtain ⟨hk, hs, hprog⟩ := hp
    refine Safe.bind (decWhile_safe m el hs hprog (k + 1) (sp.take k) ?_) fun _ _ => trivial
    exact Nat.lt_succ_of_le (List.length_take_le ..)
  | chunked es n k b =>
    refine Safe.bind (decChunked_safe m el hp es n sp) fun vs _ => Safe.bind ?_ fun _ _ => trivial
    -- `unwrapArr` is a check: a value or an error
    exact Safe.ite (fun _ => Safe.ite (fun _ => trivial) fun _ => trivial) fun _ => trivial
  | zero n =>
    exact Safe.bind (decRepeat_safe m _ (fun _ => Safe.bind (hp []) fun _ _ => Safe.ok ..) n []) fun _ _ => Safe.ok ..

end

/-- **the twelve array cases**: with the context entries bound and an element decoder as the
    layout promises, the array decoder does not panic (reference mode), or panics only at a
    recorded hazard (model of the emitted code) -/
theorem decArray_safe (m : Mode) (el : Bytes → Dec (Value × Bytes)) (ew : ElemWidth) (shape : Shape)
    (cnt siz esz : Option Nat) (hkeys : arrayKeysOk ew shape cnt siz esz = true) (hel : ElemOk m el ew)
    (sp : Bytes) : Safe m (decArray m el ew shape cnt siz esz sp) :=
  decArray_eq_runArr .. ▸ runArr_safe (arrPlan_ok hkeys hel)

/-! ### Bit-field chunks are total: `check_size` dominates the single read -/

theorem decChunkFields_no_panic (ideal : Bool) (fs : List BitField) (shift chunk : Nat) (st : DState) :
    (decChunkFields ideal fs shift chunk st).isPanic = false := by
  rw [decChunkFields_eq]; cases chunkReject ideal fs (chunk / 2 ^ shift) <;> rfl

theorem decChunk_no_panic (e : Endian) (ideal : Bool) (fs : List BitField) (bs : Bytes) (st : DState) :
    (decChunk e ideal fs bs st).isPanic = false := by
  rw [decChunk_eq]
  split
  · rfl
  · exact Outcome.isPanic_bind (decChunkFields_no_panic ..) fun _ _ => rfl

theorem withPad_safe (m : Mode) (pad : Option Nat) (bs : Bytes) (k : Bytes → Dec (List Value × Bytes))
    (hk : ∀ sp, Safe m (k sp)) : Safe m (withPad pad bs k) := by
  cases pad with
  | none => exact hk bs
  | some p => exact Safe.ite_err fun _ => Safe.bind (hk _) fun _ _ => trivial

/-! ### the context: every entry an item reads has been bound by an earlier chunk -/

def CtxHas (st : DState) (avail : List Key) : Prop := ∀ k ∈ avail, (st.ctx.get k).isSome = true

theorem CtxHas.nil (st : DState) : CtxHas st [] := fun _ hk => (List.not_mem_nil hk).elim

theorem Frame.has {st st' : DState} {keys : List Key} {ids : List String} (h : Frame st st' keys ids)
    (avail : List Key) (hc : CtxHas st avail) : CtxHas st' (keys ++ avail) := by
  obtain ⟨ks, h1, h2⟩ := h.ctx
  intro k hk
  rw [h1, Ctx.get_append, Option.isSome_or, Bool.or_eq_true]
  rcases List.mem_append.mp hk with hk | hk
  · left
    rw [← List.mem_reverse, ← h2] at hk
    obtain ⟨p, hp, rfl⟩ := List.mem_map.mp hk
    exact List.lookup_isSome_iff.mpr ⟨p, hp, beq_self_eq_true _⟩
  · exact Or.inr (hc k hk)

/-- `decode_partial` adds checks, no hazard, to the decoder of the own fields -/
theorem decPartialWith_safe {m : Mode} {decOwn : Bytes → Dec (DState × Bytes)} (h : ∀ bs, Safe m (decOwn bs))
    (parent : Body) (cs : List (String × Nat)) (pv : Value) : Safe m (decPartialWith decOwn parent cs pv) := by
  rw [decPartialWith_eq]
  exact Safe.ite_err fun _ => Safe.ite
    (fun _ => Safe.bind (h _) fun _ _ => Safe.ite (fun _ => trivial) fun _ => trivial) fun _ => trivial

/-- after an item the context still has every entry it had, plus — after a chunk — the chunk's -/
theorem decItem_ctx (c : Cfg) (i : Item) (bs : Bytes) (st st' : DState) (r : Bytes) (avail : List Key)
    (h : decItem c i bs st = .ok (st', r)) (hc : CtxHas st avail) :
    CtxHas st' (availAfter avail i) := by
  have := (decItem_frame h).1.has avail hc
  cases i <;> simpa [availAfter, keysBound] using this

theorem safe_of_not_panic {α : Type} (m : Mode) (o : Dec α) (h : o.isPanic = false) : Safe m o := by
  cases o with
  | panic q => cases h
  | _ => trivial

theorem StaticStep.safe {f : Bytes → Dec (Value × Bytes)} {k : Nat} (h : StaticStep f k) (m : Mode) {bs : Bytes}
    (hk : k ≤ bs.length) : Safe m (f bs) := by
  rcases h bs hk with ⟨v, hv⟩ | ⟨e, he⟩
  · rw [hv]; trivial
  · rw [he]; trivial

theorem decTy_prim_step (c : Cfg) (ty : Ty) (hty : ty.isStruct = false) : StaticStep (decTy c ty) (minTy ty) := by
  intro bs hlen
  cases ty with
  | struct nm b => cases hty
  | scalar w =>
    simp only [minTy] at hlen ⊢
    rw [decTy, getUint_of_le hlen]; exact .inl ⟨_, rfl⟩
  | enumTy nm en =>
    simp only [minTy] at hlen ⊢
    rw [decTy, getUint_of_le hlen, Outcome.ok_bind]
    by_cases hok : enumOk en (rdInt c.e (bs.take (en.width / 8))) = true
    · exact .inl ⟨_, if_pos hok⟩
    · exact .inr ⟨_, if_neg hok⟩
  | custom nm w =>
    simp only [minTy] at hlen ⊢
    rw [decTy, if_neg (Nat.not_lt.mpr hlen), getUint_of_le hlen]; exact .inl ⟨_, rfl⟩

theorem decTy_static_step (c : Cfg) (ty : Ty) (w : Nat) (hs : staticTy ty = some w)
    (hg : ty.selfGuarded = false) : StaticStep (decTy c ty) w := by
  cases ty with
  | scalar W | enumTy nm en => cases hs; exact decTy_prim_step c _ rfl
  | custom nm W | struct nm b => cases hg

theorem ctxHas_contains (st : DState) (avail : List Key) (k : Key) (hc : CtxHas st avail)
    (h : avail.contains k = true) : ∃ v, st.ctx.get k = some v :=
  Option.isSome_iff_exists.mp (hc k (by simpa using h))

theorem arrayKeysOk_of_decWf {st : DState} {avail : List Key} {id : String} {elem : Ty} {ew : ElemWidth} {shape : Shape}
    {pad : Option Nat} (hw : decWfItem avail (.array id elem ew shape pad) = true) (hc : CtxHas st avail) :
    arrayKeysOk ew shape (st.ctx.get (.count id)) (st.ctx.get (.size id)) (st.ctx.get (.esize id)) = true := by
  simp only [decWfItem, Bool.and_eq_true] at hw
  refine arrayKeysOk_iff.mpr ⟨?_, ?_, ?_⟩ <;> rintro rfl
  · exact hc _ (List.contains_iff_mem.mp hw.2)
  · exact hc _ (List.contains_iff_mem.mp hw.2)
  · exact hc _ (List.contains_iff_mem.mp (Bool.and_eq_true_iff.mp hw.1.2).1)

theorem safe_all (c : Cfg) :
    (∀ ty, decWfTy ty = true → ty.selfGuarded = true → SafeF c.mode (decTy c ty)) ∧
    (∀ i avail bs st, decWfItem avail i = true → CtxHas st avail → Safe c.mode (decItem c i bs st)) ∧
    (∀ is avail bs st, decWfItems avail is = true → CtxHas st avail → Safe c.mode (decItems c is bs st)) ∧
    (∀ b, decWfBody b = true → ∀ bs, Safe c.mode (decBody c b bs)) := by
  apply Layout.induction
  case scalar => intro w _ hg; cases hg
  case enumTy => intro nm en _ hg; cases hg
  case custom =>
    intro nm w _ _ bs
    by_cases hl : w / 8 ≤ bs.length
    · exact (decTy_prim_step c _ rfl).safe _ hl
    · rw [decTy, if_pos (Nat.not_le.mp hl)]; trivial
  case struct => intro nm b ih hw _ bs; exact ih hw bs
  case chunk => intro fs avail bs st _ _; exact safe_of_not_panic _ _ (decChunk_no_panic _ _ _ _ _)
  case typedef =>
    intro id ty sb ih avail bs st hw _
    have hw := Bool.and_eq_true_iff.mp hw
    cases ty with
    | scalar w | enumTy nm en => cases hw.1
    | custom nm w =>
      -- the unguarded read: the one place where the two modes part
      refine Safe.ite (fun _ => ?_) fun hl => ?_
      · cases c.mode
        · exact ⟨rfl, rfl⟩
        · trivial
      · rw [getUint_of_le (Nat.not_lt.mp hl)]; trivial
    | struct nm b => exact Safe.bind (ih hw.2 hw.1 bs) fun _ _ => trivial
  case optional =>
    intro id ty cid cval ih avail bs st hw hc
    have hw := Bool.and_eq_true_iff.mp hw
    obtain ⟨cv, hcv⟩ := ctxHas_contains st avail _ hc hw.1
    simp only [decItem, hcv]
    by_cases heq : cv = cval
    · rw [if_pos heq]
      -- with the guard passed, a scalar or enum has its octets; the other types guard themselves
      refine Safe.ite_err fun hs => Safe.bind ?_ fun _ _ => trivial
      cases ty with
      | scalar w | enumTy nm en => exact (decTy_prim_step c _ rfl).safe _ (by simpa [minTy] using hs)
      | custom nm w | struct nm b => exact ih hw.2 rfl bs
    · rw [if_neg heq]; trivial
  case payload =>
    intro mode avail bs st hw hc
    cases mode with
    | sized m =>
      obtain ⟨sz, hsz⟩ := ctxHas_contains st avail _ hc hw
      simp only [decItem, hsz]
      exact Safe.ite_err fun _ => Safe.ite_err fun _ => trivial
    | last => trivial
    | beforeStatic k => exact Safe.ite_err fun _ => trivial
    | undelimited => cases hw
  case array =>
    intro id elem ew shape pad ih avail bs st hw hc
    have hkeys := arrayKeysOk_of_decWf hw hc
    obtain ⟨hw, hshape⟩ := Bool.and_eq_true_iff.mp hw
    obtain ⟨hwt, hew⟩ := Bool.and_eq_true_iff.mp hw
    have hel : ElemOk c.mode (decTy c elem) ew := by
      cases ew with
      | «static» w =>
        simp only [Bool.and_eq_true, decide_eq_true_eq, Bool.or_eq_true, beq_iff_eq] at hew
        refine ⟨hew.1, ?_⟩
        cases hg : elem.selfGuarded
        · exact .inr (decTy_static_step c elem w (hew.2.resolve_left (by simp [hg])) hg)
        · exact .inl (ih hwt hg)
      | dynamic =>
        simp only [Bool.and_eq_true] at hew
        exact ih hwt hew.2
      | unknown =>
        simp only [Bool.and_eq_true, decide_eq_true_eq] at hew
        exact ⟨ih hwt hew.1, fun b v r _ hb =>
          Nat.lt_of_lt_of_le (Nat.lt_add_of_pos_right hew.2) (decTy_consumes hb)⟩
    simp only [decItem, hkeys, Bool.not_true, Bool.false_eq_true, ↓reduceIte]
    exact Safe.bind (withPad_safe c.mode pad bs _ (decArray_safe c.mode _ ew shape _ _ _ hkeys hel)) fun _ _ => trivial
  case nil => intro _ _ _ _ _; exact Safe.ok ..
  case cons =>
    intro i r ihi ihr avail bs st hw hc
    have hw := Bool.and_eq_true_iff.mp hw
    exact Safe.bind (ihi avail bs st hw.1 hc) fun x h1 =>
      ihr _ x.2 x.1 hw.2 (decItem_ctx c i bs st x.1 x.2 avail h1 hc)
  case root =>
    intro _ items ih hw bs
    exact Safe.bind (ih [] bs DState.empty hw (.nil _)) fun _ _ => trivial
  case derived =>
    intro _ parent cs _ items ihp ih hw bs
    have hw := Bool.and_eq_true_iff.mp hw
    exact Safe.bind (ihp hw.1 bs) fun _ _ =>
      Safe.bind (decPartialWith_safe (fun bs => ih [] bs DState.empty hw.2 (.nil _)) ..) fun _ _ => trivial

theorem decTy_safe (c : Cfg) : ∀ (ty : Ty), decWfTy ty = true → ty.selfGuarded = true →
    SafeF c.mode (decTy c ty) := (safe_all c).1

theorem decItem_safe (c : Cfg) : ∀ (i : Item) (avail : List Key) (bs : Bytes) (st : DState),
    decWfItem avail i = true → CtxHas st avail → Safe c.mode (decItem c i bs st) := (safe_all c).2.1

theorem decItems_safe (c : Cfg) : ∀ (is : Items) (avail : List Key) (bs : Bytes) (st : DState),
    decWfItems avail is = true → CtxHas st avail → Safe c.mode (decItems c is bs st) := (safe_all c).2.2.1

theorem decBody_safe (c : Cfg) : ∀ (b : Body), decWfBody b = true → ∀ bs, Safe c.mode (decBody c b bs) :=
  (safe_all c).2.2.2

/-- **The reference decoder is total**: for every layout the decoder generator handles
    (`decWfBody`, evaluated by the check on every generated layout), in both byte orders, `decode`
    returns a value or a `DecodeError` on EVERY byte string — no bound on the input, on array
    counts, nesting or inheritance depth. -/
theorem decode_no_panic_ideal (e : Endian) (b : Body) (hw : decWfBody b = true) (bs : Bytes) :
    (decBody { e := e, mode := .ideal } b bs).isPanic = false :=
  safe_ideal_iff.mp (decBody_safe { e := e, mode := .ideal } b hw bs)

/-- **The emitted decoder panics only at the four recorded call sites** (`count * width` on usize,
    the unguarded read of a sized custom field, `chunks(0)` and `% 0` for an element size of zero):
    every other read, slice, loop and subtraction is dominated by its guard, on every input. -/
theorem decode_panics_only_at_known_hazards (e : Endian) (b : Body) (hw : decWfBody b = true)
    (bs : Bytes) (h : Hazard) (hp : decBody { e := e, mode := .rust } b bs = .panic h) :
    knownHazard h = true := by
  have := decBody_safe { e := e, mode := .rust } b hw bs
  rw [hp] at this
  exact this.2

/-- the same for `decode_full` (pdl-runtime): the trailing-bytes check adds no panic -/
theorem decode_full_no_panic_ideal (e : Endian) (b : Body) (hw : decWfBody b = true) (bs : Bytes) :
    (decodeFull { e := e, mode := .ideal } b bs).isPanic = false :=
  Outcome.isPanic_bind (decode_no_panic_ideal e b hw bs) fun _ _ => by rw [Outcome.isPanic_ite]; split <;> rfl

/-- **`decode` never returns more than it was given**, and consumes at least the octets the layout
    makes mandatory — all layouts, all inputs, both modes (no well-formedness needed) -/
theorem decode_remainder_bound (c : Cfg) (b : Body) (bs : Bytes) (v : Value) (r : Bytes)
    (h : decBody c b bs = .ok (v, r)) : r.length + minBody b ≤ bs.length :=
  ((eats_all c).2.2.2 b bs v r h).length_le

/-- **`decode` returns a suffix of its input**: the remainder handed back is exactly the tail of
    the byte string that was not consumed — all layouts, all inputs, both modes -/
theorem decode_suffix (c : Cfg) (b : Body) (bs : Bytes) (v : Value) (r : Bytes)
    (h : decBody c b bs = .ok (v, r)) : ∃ consumed, bs = consumed ++ r :=
  ((eats_all c).2.2.2 b bs v r h).suffix

/-! ### Hazards present in the pinned tree: negation witnesses
    (the full statement "decode never panics" is FALSE of the emitted code; each witness is
    replayed on the real generated code by `bin/check C01`) -/

/-- `packet P { c: Cf }` with `custom_field Cf : 16`: the typedef read has no length guard. -/
def wCustom : Body := .root "P" (.cons (.typedef "c" (.custom "Cf" 16) (some 2)) .nil)

theorem hazard_customRead :
    decBody { e := .little, mode := .rust } wCustom [0x01] = .panic .customRead := by rfl

theorem ideal_customRead :
    decBody { e := .little, mode := .ideal } wCustom [0x01] = .err .length := by rfl

/-- `packet P { _count_(x): 8, x: 16[] }` is fine; with a 64-bit count the product overflows. -/
def wCount : Body :=
  .root "P" (.cons (.chunk [.count "x" 64]) (.cons (.array "x" (.scalar 16) (.static 2) .countField none) .nil))

theorem hazard_mulOverflow :
    decBody { e := .little, mode := .rust } wCount [0xff, 0xff, 0xff, 0xff, 0xff, 0xff, 0xff, 0xff]
      = .panic .mulOverflow := by rfl

theorem ideal_mulOverflow :
    decBody { e := .little, mode := .ideal } wCount [0xff, 0xff, 0xff, 0xff, 0xff, 0xff, 0xff, 0xff]
      = .err .length := by rfl

/-- non-vacuity: a scalar read meets `SuffixSafe`, the hypothesis of `decRepeat_suffix` -/
example : SuffixSafe (decTy { e := .little } (.scalar 8)) := decTy_suffix _ _

/-! non-vacuity: `packet P { _count_(x): 8, c: 1, _reserved_: 7, x: 16[], o: 8 if c = 1, _payload_ }` -/
example : decWfBody (.root "P" (.cons (.chunk [.count "x" 8, .flag "c" [("o", 1)], .reserved 7])
    (.cons (.array "x" (.scalar 16) (.static 2) .countField none)
    (.cons (.optional "o" (.scalar 8) "c" 1) (.cons (.payload .last) .nil))))) = true := by decide

end Pdlv
