/-
  C05 — the Rust encoder never truncates: out-of-range is an error, length as promised.

  Statements about the encoder model `Pdlv.encBody` / `Pdlv.lenBody` (Pdlv/Wire.lean), which is
  compared with the emitted encoders on every run (`bin/check C05`).
-/
import Pdlv.Wire
import Pdlv.Lemmas.Enc
import Pdlv.Thm.C16
import Pdlv.Lemmas.ChunkEnc
import Pdlv.Lemmas.Layout
import Pdlv.Lemmas.Items

namespace Pdlv

/-- **A scalar that exceeds its declared width is an error, not truncated bits** (bit-fields). -/
theorem scalar_out_of_range_is_error (ideal : Bool) (items : Items) (n : Nat) (v : Value)
    (id : String) (w x shift acc : Nat) (fs : List BitField)
    (hv : v.get? id = some (.int x)) (hb : x < 2 ^ backingOf w) (hw : backingOf w > w)
    (hx : x > maskBits w) :
    encChunkFields ideal items n v (.scalar id w :: fs) shift acc = .err .invalidScalarValue := by
  rw [encChunkFields_cons]
  simp only [bfEnc, natField_ok_iff.mpr hv, Outcome.ok_bind]
  rw [if_neg (Nat.not_le.mpr hb), if_pos ⟨hw, hx⟩]; rfl

/-- every count that does not fit its field is an error (any width below 64, both modes) -/
theorem count_out_of_range_is_error (ideal : Bool) (items : Items) (n : Nat) (v : Value)
    (t : String) (w shift acc : Nat) (fs : List BitField) (vs : List Value)
    (hv : v.get? t = some (.arr vs)) (hw : w < 64) (hx : vs.length > maskBits w) :
    encChunkFields ideal items n v (.count t w :: fs) shift acc = .err .countOverflow := by
  rw [encChunkFields_cons]
  simp only [bfEnc, listField_ok_iff.mpr hv, Outcome.ok_bind]
  rw [if_pos ⟨Or.inr hw, hx⟩]; rfl

/-- DESIGN.md H5: `_count_(a): 8` — 256 elements are `CountOverflow`, in the model of the emitted code as in the
    reference (the range check is emitted for every count field narrower than `usize`). -/
theorem count_overflow_is_error (ideal : Bool) (vs : List Value) (h : vs.length = 256) :
    encChunkFields ideal (.cons (.array "a" (.scalar 8) (.static 1) .countField none) .nil) 0
      (.obj [("a", .arr vs)]) [.count "a" 8] 0 0 = .err .countOverflow :=
  count_out_of_range_is_error ideal _ 0 _ "a" 8 0 0 [] vs rfl (by decide) (by rw [h]; decide)

/-- KF-C05-array-elem-trunc: elements of `x: 24[]` live in `u32`; the emitted `put_uint(elem, 3)` keeps the low 24
    bits of an out-of-range element without any check. -/
theorem array_elem_truncates_rust :
    encTy { e := .little, mode := .rust } (.scalar 24) (.int 0x1000001) = .ok [1, 0, 0] := by rfl

theorem array_elem_error_ideal :
    encTy { e := .little, mode := .ideal } (.scalar 24) (.int 0x1000001) = .err .invalidScalarValue := by
  rfl

/-- the hypothesis of the length theorems (decidable; evaluated by the check on every layout) -/
def LenWFTy (t : Ty) : Prop := lenWfTy t = true
def LenWFItem (i : Item) : Prop := lenWfItem i = true
def LenWFItems (is : Items) : Prop := lenWfItems is = true
def LenWFBody (b : Body) : Prop := lenWfBody b = true

open Outcome

/-- the child's bytes are needed wherever a level has a payload item -/
theorem encItems_inner_needed (c : Cfg) (all : Items) (inner : Enc Bytes) (pl : Nat) (v : Value) (is : Items) :
    ∀ (bs : Bytes), is.hasPayload = true → encItems c all inner pl v is = .ok bs → ∃ ib, inner = .ok ib := by
  induction is using Items.induction with
  | nil => exact fun _ h => nomatch h
  | cons i r ih =>
    intro bs h he
    obtain ⟨a, b, ha, hb, _⟩ := encItems_cons_ok_iff.mp he
    cases i with
    | payload m => exact ⟨a, ha⟩
    | _ => exact ih b h hb

theorem len_all (c : Cfg) :
    (∀ t v bs, LenWFTy t → encTy c t v = .ok bs → bs.length = lenTy t v) ∧
    (∀ i all ib pl v bs, LenWFItem i → encItem c all (.ok ib) pl v i = .ok bs →
      bs.length = lenItemsP (.cons i .nil) v ib.length) ∧
    (∀ is all ib pl v bs, LenWFItems is → encItems c all (.ok ib) pl v is = .ok bs →
      bs.length = lenItemsP is v ib.length) ∧
    (∀ b v bs, LenWFTy (.struct "" b) → encBody c b v = .ok bs → bs.length = lenBody b v) := by
  apply Layout.induction
  case scalar => exact fun w v bs _ he => encTy_static c _ v bs (w / 8) rfl he
  case enumTy => exact fun _ en v bs _ he => encTy_static c _ v bs (en.width / 8) rfl he
  case custom => exact fun _ w v bs _ he => encTy_static c _ v bs (w / 8) rfl he
  case struct =>
    intro nm b ih v bs hw he
    cases b with
    | root nm' items => exact ih v bs hw he
    | derived => cases hw
  case chunk =>
    exact fun fs all ib pl v bs _ he => encChunk_length c all _ pl v fs bs he
  case payload => intro m all ib pl v bs _ he; cases (encPayload_verbatim c all ib pl v m).symm.trans he; rfl
  case typedef =>
    intro id ty sb ih all ib pl v bs hw he
    obtain ⟨x, hx, hty⟩ := encItem_typedef_ok_iff.mp he
    simp only [LenWFItem, lenWfItem, Bool.and_eq_true] at hw
    cases sb with
    | some n => simpa [lenItemsP, lenItem] using encTy_static c ty x bs n (by simpa using hw.1) hty
    | none => simpa [lenItemsP, lenItem, hx] using ih x bs hw.2 hty
  case optional =>
    intro id ty ci cv ih all ib pl v bs hw he
    simp only [lenItemsP, Nat.add_zero]
    rcases encItem_optional_ok he with ⟨hp, rfl⟩ | ⟨x, hx, hn, he⟩
    · rw [lenItem_optional_absent hp]; rfl
    · rw [lenItem_optional_present hx hn]; exact ih x bs hw he
  case array =>
    intro id elem ew shape pad ih all ib pl v bs hw he
    obtain ⟨vs, es, hget, _, _, hes, hpad⟩ := encItem_array_ok_iff.mp he
    simp only [LenWFItem, lenWfItem, Bool.and_eq_true] at hw
    simp only [lenItemsP, Nat.add_zero]
    rw [padTo_length hpad, lenItem_array hget,
      encListWith_arrSize (ew := ew) (fun w hew x b hx => encTy_static c elem x b w (by subst hew; simpa using hw.1) hx)
        (fun x b hx => ih x b hw.2 hx) hes]
  case nil => intro all ib pl v bs _ he; cases he; rfl
  case cons =>
    intro i r ihi ihr all ib pl v bs hw he
    obtain ⟨a, b, ha, hb, rfl⟩ := encItems_cons_ok_iff.mp he
    simp only [LenWFItems, lenWfItems, Bool.and_eq_true] at hw
    rw [List.length_append, ihi all ib pl v a hw.1 ha, ihr all ib pl v b hw.2 hb, ← lenItemsP_cons]
  case root =>
    intro nm items ih v bs hw he
    obtain ⟨p, hp, he⟩ := encBody_root_ok_iff.mp he
    rw [ih items p p.length v bs hw he, lenItemsP_payload (fun _ h => h) hp]; rfl
  case derived => intro _ _ _ _ _ _ _ _ _ hw _; cases hw

theorem encTy_len (c : Cfg) : ∀ (t : Ty) (v : Value) (bs : Bytes),
    LenWFTy t → encTy c t v = .ok bs → bs.length = lenTy t v := (len_all c).1

theorem encItem_len (c : Cfg) (all : Items) (ib : Bytes) (pl : Nat) (v : Value) :
    ∀ (i : Item) (bs : Bytes), LenWFItem i → encItem c all (.ok ib) pl v i = .ok bs →
      bs.length = lenItemsP (.cons i .nil) v ib.length := fun i => (len_all c).2.1 i all ib pl v

theorem encItems_len (c : Cfg) (all : Items) (ib : Bytes) (pl : Nat) (v : Value) :
    ∀ (is : Items) (bs : Bytes), LenWFItems is → encItems c all (.ok ib) pl v is = .ok bs →
      bs.length = lenItemsP is v ib.length := fun is => (len_all c).2.2.1 is all ib pl v

theorem encList_len_arrSize (c : Cfg) (elem : Ty) (ew : ElemWidth)
    (hw : (match ew with | .static w => staticTy elem == some w | _ => true) = true ∧ lenWfTy elem = true)
    (vs : List Value) (es : Bytes) (hel : encListWith (encTy c elem) vs = .ok es) :
    es.length = arrSize ew (lenTy elem) vs :=
  encListWith_arrSize (ew := ew) (fun w hew x b hx => encTy_static c elem x b w (by subst hew; simpa using hw.1) hx)
    (fun x b hx => encTy_len c elem x b hw.2 hx) hel

/-- the ancestors' items around the child's bytes: `inner` must have succeeded and the result is
    `aroundLen` octets long -/
theorem encAround_len (c : Cfg) : ∀ (b : Body) (v : Value) (inner : Enc Bytes) (len : Nat) (bs : Bytes),
    LenWFBody b → b.hasPayload = true → encAround c b v inner len = .ok bs →
      ∃ ib, inner = .ok ib ∧ bs.length = aroundLen b v ib.length := by
  intro b
  induction b using Body.induction with
  | root _ items =>
    intro v inner len bs hw hp he
    obtain ⟨ib, rfl⟩ := encItems_inner_needed c items inner len v items bs hp he
    exact ⟨ib, rfl, encItems_len c items ib len v items bs hw he⟩
  | derived _ parent _ _ items ih =>
    intro v inner len bs hw hp he
    simp only [LenWFBody, lenWfBody, Bool.and_eq_true] at hw
    obtain ⟨ib', hib', hlen⟩ := ih v _ _ bs hw.1.2 hw.2 he
    obtain ⟨ib, rfl⟩ := encItems_inner_needed c items inner len v items ib' hp hib'
    exact ⟨ib, rfl, by rw [hlen, encItems_len c items ib len v items ib' hw.1.1 hib']; rfl⟩

/-- one ancestor level: its own fields around the inner octets give `mb`, the ancestors go around `mb` -/
theorem encAround_derived_ok (c : Cfg) (nm : String) (gp : Body) (cs a : List (String × Nat)) (items : Items) (v : Value)
    (ib bs : Bytes) (hl : lenWfBody (.derived nm gp cs a items) = true) (hpay : items.hasPayload = true)
    (hpm : (payloadModes items).length ≤ 1)
    (he : encAround c (.derived nm gp cs a items) v (.ok ib) ib.length = .ok bs) :
    ∃ mb, encItems c items (.ok ib) ib.length v items = .ok mb ∧ encAround c gp v (.ok mb) mb.length = .ok bs := by
  simp only [lenWfBody, Bool.and_eq_true] at hl
  simp only [encAround] at he
  obtain ⟨mb, hmb, _⟩ := encAround_len c gp v _ _ bs hl.1.2 hl.2 he
  refine ⟨mb, hmb, ?_⟩
  rw [encItems_len c items ib ib.length v items mb hl.1.1 hmb, lenItemsP_split v ib.length items hpay hpm, ← hmb]
  exact he

/-- the leaf: the payload octets `p`, the own fields around them give `ib`, the ancestors go around `ib` -/
theorem encBody_derived_ok (c : Cfg) (nm : String) (parent : Body) (cs allCs : List (String × Nat)) (items : Items) (v : Value)
    (bs : Bytes) (hl : lenWfBody (.derived nm parent cs allCs items) = true)
    (he : encBody c (.derived nm parent cs allCs items) v = .ok bs) :
    ∃ p ib, (if items.hasPayload then (v.get? "payload").bind valBytes else some []) = some p ∧
      encItems c items (.ok p) p.length (withConstants allCs v) items = .ok ib ∧
      encAround c parent (withConstants allCs v) (.ok ib) ib.length = .ok bs := by
  simp only [lenWfBody, Bool.and_eq_true] at hl
  obtain ⟨p, hp, he⟩ := encBody_derived_ok_iff.mp he
  obtain ⟨ib, hib, _⟩ := encAround_len c parent (withConstants allCs v) _ _ bs hl.1.2 hl.2 he
  refine ⟨p, ib, hp, hib, ?_⟩
  rw [encItems_len c items p p.length (withConstants allCs v) items ib hl.1.1 hib,
    lenItemsP_payload (withConstants_get_own allCs v "payload") hp, ← hib]
  exact he

/-- **`encode` writes exactly `encoded_len()` octets** — for every layout whose static annotations
    agree with its types (`LenWFBody`, what `Schema` guarantees; C16), every value, both byte
    orders, in the model of the emitted code and in the reference mode alike.  Root packets,
    structs and inheriting packets at any depth. -/
theorem encBody_len (c : Cfg) : ∀ (b : Body) (v : Value) (bs : Bytes),
    LenWFBody b → encBody c b v = .ok bs → bs.length = encLen b v := by
  intro b v bs hw he
  cases b with
  | root nm items => exact encTy_len c (.struct nm (.root nm items)) v bs hw he
  | derived nm parent cs allCs items =>
    simp only [LenWFBody, lenWfBody, Bool.and_eq_true] at hw
    obtain ⟨p, hp, he⟩ := encBody_derived_ok_iff.mp he
    obtain ⟨ib, hib, hlen⟩ := encAround_len c parent (withConstants allCs v) _ _ bs hw.1.2 hw.2 he
    rw [hlen, encItems_len c items p p.length (withConstants allCs v) items ib hw.1.1 hib,
      lenItemsP_payload (withConstants_get_own allCs v "payload") hp]; rfl

/-- for a packet or struct without parent this is the model's `lenBody` (what the check compares
    with the emitted `encoded_len()`) -/
theorem encLen_root (nm : String) (items : Items) (v : Value) :
    encLen (.root nm items) v = lenBody (.root nm items) v := by
  simp [encLen, lenBody]


theorem checkPad_no_panic (pad : Option Nat) (sz : Nat) : (checkPad pad sz).isPanic = false := by
  cases pad with
  | none => rfl
  | some q => simp only [checkPad]; split <;> rfl

theorem bfEnc_no_panic (ideal : Bool) (all : Items) (pl : Nat) (v : Value) (f : BitField)
    (hf : typedBf all v f = true) : (bfEnc ideal all pl v f).isPanic = false := by
  cases f with
  | scalar id w =>
    simp only [typedBf] at hf
    split at hf
    · rename_i x hx
      simp only [decide_eq_true_eq] at hf
      simp only [bfEnc, natField_ok_iff.mpr hx, ok_bind]
      rw [if_neg (Nat.not_le.mpr hf)]; exact isPanic_guard rfl
    · cases hf
  | flag id opts =>
    cases opts with
    | nil => cases hf
    | cons o rest => exact isPanic_guard rfl
  | enumTy id ty e =>
    simp only [typedBf] at hf
    split at hf
    · rename_i x hx; simp [bfEnc, natField_ok_iff.mpr hx, hf]
    · cases hf
  | fixed w c => rfl
  | reserved w => rfl
  | size t w m =>
    have hs : ∃ s, sizeOfTarget all t pl v = .ok s := by
      by_cases hpb : t = "_payload_" ∨ t = "_body_"
      · exact ⟨pl, sizeOfTarget_ok_iff.mpr (by simp [hpb])⟩
      · simp only [typedBf, Bool.or_eq_true, beq_iff_eq, hpb, false_or] at hf
        split at hf
        · rename_i p vs hfa hget
          exact ⟨_, sizeOfTarget_ok_iff.mpr (by simp only [hpb, ↓reduceIte]; exact ⟨p.1, p.2, vs, hfa, hget, rfl⟩)⟩
        · cases hf
    obtain ⟨s, hs⟩ := hs
    simp only [bfEnc, hs, ok_bind]; exact isPanic_guard rfl
  | count t w =>
    simp only [typedBf] at hf
    split at hf
    · rename_i vs hget; simp only [bfEnc, listField_ok_iff.mpr hget, ok_bind]; exact isPanic_guard rfl
    · cases hf
  | elemSize t w =>
    simp only [typedBf] at hf
    split at hf
    · rename_i p vs hfa hget
      simp only [bfEnc, listField_ok_iff.mpr hget, ok_bind, elemTy_firstArray, hfa, Option.map_some]
      exact isPanic_guard (isPanic_guard rfl)
    · cases hf

theorem typed_payload {items : Items} {v : Value}
    (h : (!items.hasPayload || ((v.get? "payload").bind valBytes).isSome) = true) :
    ∃ p, (if items.hasPayload then (v.get? "payload").bind valBytes else some []) = some p := by
  cases hh : items.hasPayload with
  | false => exact ⟨[], rfl⟩
  | true => simpa [hh, Option.isSome_iff_exists] using h

theorem encTy_scalar_no_panic (c : Cfg) (w : Nat) (v : Value) (ht : typedTy (.scalar w) v = true) :
    (encTy c (.scalar w) v).isPanic = false := by
  simp only [typedTy] at ht
  split at ht
  · simp only [decide_eq_true_eq] at ht
    simp only [encTy]
    rw [if_neg (Nat.not_le.mpr ht)]
    split <;> rfl
  · cases ht

theorem no_panic_all (c : Cfg) :
    (∀ t v, LenWFTy t → typedTy t v = true → (encTy c t v).isPanic = false) ∧
    (∀ i all inner pl v, inner.isPanic = false → LenWFItem i → typedItem all v i = true →
      (encItem c all inner pl v i).isPanic = false) ∧
    (∀ is all inner pl v, inner.isPanic = false → LenWFItems is → typedItems all v is = true →
      (encItems c all inner pl v is).isPanic = false) ∧
    (∀ b, (∀ v, LenWFBody b → typedBody b v = true → (encBody c b v).isPanic = false) ∧
      (∀ v inner len, LenWFBody b → typedAround b v = true → inner.isPanic = false →
        (encAround c b v inner len).isPanic = false)) := by
  apply Layout.induction
  case scalar => exact fun w v _ ht => encTy_scalar_no_panic c w v ht
  case enumTy =>
    intro nm en v _ ht
    simp only [typedTy] at ht
    split at ht
    · simp [encTy, ht]
    · cases ht
  case custom =>
    intro nm w v _ ht
    simp only [typedTy] at ht
    split at ht
    · simp only [decide_eq_true_eq] at ht
      simp [encTy, ht]
    · cases ht
  case struct =>
    intro nm b ih v hw ht
    cases b with
    | root nm' items => exact ih.1 v hw ht
    | derived => cases hw
  case chunk =>
    intro fs all inner pl v _ _ ht
    rw [encItem, encChunkFields_eq]
    exact isPanic_bind (isPanic_bind (packInt_no_panic fun f hf => bfEnc_no_panic _ all pl v f (List.all_eq_true.mp ht f hf))
      fun _ _ => rfl) fun _ _ => rfl
  case typedef =>
    intro id ty sb ih all inner pl v _ hw ht
    simp only [LenWFItem, lenWfItem, Bool.and_eq_true] at hw
    simp only [typedItem] at ht
    simp only [encItem]
    split at ht
    · rename_i x hx
      simp only [hx]
      exact ih x hw.2 ht
    · cases ht
  case optional =>
    intro id ty cid cval ih all inner pl v _ hw ht
    cases hp : isPresent v id with
    | false => rw [encItem_optional_absent hp]; rfl
    | true =>
      obtain ⟨x, hx, hn⟩ := isPresent_true_iff.mp hp
      have htx : typedTy ty x = true := by cases x <;> simp_all [typedItem]
      have := ih x hw htx
      -- an optional scalar is written as the reference mode writes a scalar: no panic there either
      rw [encItem_optional_present hx hn]
      cases ty with
      | scalar w => exact encTy_scalar_no_panic _ w x htx
      | _ => exact this
  case payload => exact fun _ _ _ _ _ hin _ _ => hin
  case array =>
    intro id elem ew shape pad ih all inner pl v _ hw ht
    simp only [LenWFItem, lenWfItem, Bool.and_eq_true] at hw
    simp only [typedItem] at ht
    split at ht
    · rename_i vs hget
      simp only [Bool.and_eq_true, List.all_eq_true] at ht
      simp only [encItem, listField_ok_iff.mpr hget, ok_bind]
      have hcc : checkCount shape vs.length = .ok () :=
        checkCount_ok_iff.mpr fun k hk => by subst hk; simpa using ht.2
      rw [hcc, ok_bind]
      refine isPanic_bind (checkPad_no_panic ..) fun _ hpad => ?_
      refine isPanic_bind (encListWith_no_panic fun x hx => ih x hw.2 (ht.1 x hx)) fun es hes => ?_
      -- the padding subtraction is dominated by the `SizeOverflow` check
      have hlen := encList_len_arrSize c elem ew hw vs es hes
      have ⟨out, hout⟩ : ∃ out, padTo pad es = .ok out :=
        ⟨_, padTo_ok_iff.mpr ⟨fun q hq => hlen ▸ checkPad_ok_iff.mp hpad q hq, rfl⟩⟩
      rw [hout]; rfl
    · cases ht
  case nil => exact fun _ _ _ _ _ _ _ => rfl
  case cons =>
    intro i r ihi ihr all inner pl v hin hw ht
    simp only [LenWFItems, lenWfItems, Bool.and_eq_true] at hw
    simp only [typedItems, Bool.and_eq_true] at ht
    exact isPanic_bind (ihi all inner pl v hin hw.1 ht.1) fun a _ =>
      isPanic_bind (ihr all inner pl v hin hw.2 ht.2) fun _ _ => rfl
  case root =>
    intro nm items ih
    refine ⟨fun v hw ht => ?_, fun v inner len hw ht hin => ih items inner len v hin hw ht⟩
    simp only [typedBody, Bool.and_eq_true] at ht
    obtain ⟨p, hp⟩ := typed_payload ht.2
    simp only [encBody, hp]
    exact ih items (.ok p) p.length v rfl hw ht.1
  case derived =>
    intro nm parent cs allCs items ihp ih
    refine ⟨fun v hw ht => ?_, fun v inner len hw ht hin => ?_⟩
    · simp only [LenWFBody, lenWfBody, Bool.and_eq_true] at hw
      simp only [typedBody, Bool.and_eq_true] at ht
      obtain ⟨p, hp⟩ := typed_payload ht.1.2
      simp only [encBody, hp]
      exact ihp.2 _ _ _ hw.1.2 ht.2 (ih items (.ok p) p.length _ rfl hw.1.1 ht.1.1)
    · simp only [LenWFBody, lenWfBody, Bool.and_eq_true] at hw
      simp only [typedAround, Bool.and_eq_true] at ht
      exact ihp.2 v _ _ hw.1.2 ht.2 (ih items inner len v hin hw.1.1 ht.1)

theorem encTy_no_panic (c : Cfg) : ∀ (t : Ty) (v : Value), LenWFTy t → typedTy t v = true →
    (encTy c t v).isPanic = false := (no_panic_all c).1

theorem encItem_no_panic (c : Cfg) (all : Items) (inner : Enc Bytes) (hin : inner.isPanic = false) (pl : Nat) (v : Value) :
    ∀ (i : Item), LenWFItem i → typedItem all v i = true → (encItem c all inner pl v i).isPanic = false :=
  fun i => (no_panic_all c).2.1 i all inner pl v hin

theorem encItems_no_panic (c : Cfg) (all : Items) (inner : Enc Bytes) (hin : inner.isPanic = false) (pl : Nat) (v : Value) :
    ∀ (is : Items), LenWFItems is → typedItems all v is = true → (encItems c all inner pl v is).isPanic = false :=
  fun is => (no_panic_all c).2.2.1 is all inner pl v hin

/-- **`encode` never panics** — for every layout whose static annotations agree with its types (`LenWFBody`),
    both byte orders, the model of the emitted encoder and the reference mode alike, and every value of the
    generated type (`typedBody`: what the Rust type system and serde admit): the outcome is bytes or an
    `EncodeError`; in particular the padding subtraction `padding_octets - array_size` never underflows
    (it is dominated by the `SizeOverflow` check).  Root packets, structs, inheriting packets at any depth. -/
theorem encBody_no_panic (c : Cfg) : ∀ (b : Body) (v : Value), LenWFBody b → typedBody b v = true →
    (encBody c b v).isPanic = false := fun b => ((no_panic_all c).2.2.2 b).1

theorem encAround_no_panic (c : Cfg) : ∀ (b : Body) (v : Value) (inner : Enc Bytes) (len : Nat), LenWFBody b →
    typedAround b v = true → inner.isPanic = false → (encAround c b v inner len).isPanic = false :=
  fun b => ((no_panic_all c).2.2.2 b).2

/-! non-vacuity: the value `{ a: 9, b: 9000, x: [1, 2], payload: [7] }` is a value of the type generated for
    `packet P { a: 3, b: 13, x: 16[], _payload_ }` (and is out of range: `encode` returns an error, no panic) -/
example : typedBody (.root "P" (.cons (.chunk [.scalar "a" 3, .scalar "b" 13])
    (.cons (.array "x" (.scalar 16) (.static 2) .unknown none) (.cons (.payload .last) .nil))))
    (.obj [("a", .int 9), ("b", .int 9000), ("x", .arr [.int 1, .int 2]), ("payload", .arr [.int 7])]) = true := by
  decide

/-! non-vacuity: `packet P { a: 3, b: 13, x: 16[], _payload_ }` meets `LenWFBody` -/
example : LenWFBody (.root "P" (.cons (.chunk [.scalar "a" 3, .scalar "b" 13])
    (.cons (.array "x" (.scalar 16) (.static 2) .unknown none) (.cons (.payload .last) .nil)))) := by
  show lenWfBody _ = true; rfl

end Pdlv
