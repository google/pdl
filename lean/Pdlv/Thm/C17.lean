/-
  C17 — endianness duality.

  For a description D and its twin D' (other endianness) the encodings of a value have the same
  segments (`Pdlv.segBody`), and D' 's bytes are D's with every `swap` segment byte-reversed:
  bit-field groups, multi-byte scalar / enum array elements, optional scalars / enums and sized
  custom fields, recursively through structs; payloads and padding are untouched.
-/
import Pdlv.Seg
import Pdlv.Lemmas.Layout

namespace Pdlv

theorem putUint_big_eq_reverse_little (w v : Nat) :
    putUint .big w v = (putUint .little w v).reverse := rfl

theorem putUint_little_eq_reverse_big (w v : Nat) :
    putUint .little w v = (putUint .big w v).reverse := by
  simp [putUint, toBE]

def mapOk {ε α β : Type} (f : α → β) : Outcome ε α → Outcome ε β
  | .ok a => .ok (f a)
  | .err e => .err e
  | .panic h => .panic h

def cfgL (m : Mode) : Cfg := { e := .little, mode := m }
def cfgB (m : Mode) : Cfg := { e := .big, mode := m }

/-! `mapOk` commutes with `bind`: the proofs below never look at an outcome -/

@[simp] theorem mapOk_ok {ε α β : Type} (g : α → β) (a : α) : mapOk g (.ok a : Outcome ε α) = .ok (g a) := rfl

theorem mapOk_bind {ε α β γ : Type} (g : β → γ) (x : Outcome ε α) (f : α → Outcome ε β) :
    mapOk g (x.bind f) = x.bind fun a => mapOk g (f a) := by cases x <;> rfl

theorem bind_mapOk {ε α β γ : Type} (g : α → β) (x : Outcome ε α) (f : β → Outcome ε γ) :
    (mapOk g x).bind f = x.bind fun a => f (g a) := by cases x <;> rfl

theorem flip_length (s : Seg) : s.flip.bytes.length = s.bytes.length := by
  unfold Seg.flip; split <;> simp

theorem flatten_flip_length (ss : List Seg) : (flatten (ss.map Seg.flip)).length = (flatten ss).length := by
  induction ss with
  | nil => rfl
  | cons s ss ih =>
    simp only [flatten, List.map_cons, List.flatMap_cons, List.length_append] at *
    rw [ih, flip_length]

theorem encTy_leaf_dual (m : Mode) (t : Ty) (v : Value)
    (hleaf : match t with | .struct .. => False | _ => True) :
    encTy (cfgB m) t v = mapOk List.reverse (encTy (cfgL m) t v) := by
  unfold cfgB cfgL
  cases t with
  | struct n b => exact absurd hleaf (by simp)
  | scalar w =>
    cases v with
    | int n =>
      simp only [encTy, mapOk]
      split
      · rfl
      · by_cases h : elemOutOfRange m w n = true
        · simp [h]
        · simp [h, putUint, toBE]
    | _ => simp [encTy, mapOk]
  | _ =>
    cases v <;> simp only [encTy, mapOk]
    split <;> simp [putUint, toBE]

theorem intSeg_dual (x : Enc Bytes) (y : Enc Bytes) (h : y = mapOk List.reverse x) :
    (y.bind fun bs => .ok [({ bytes := bs, swap := true } : Seg)]) =
      mapOk (List.map Seg.flip) (x.bind fun bs => .ok [({ bytes := bs, swap := true } : Seg)]) := by
  subst h; cases x <;> rfl

theorem segListWith_dual (f g : Value → Enc (List Seg))
    (h : ∀ v, g v = mapOk (List.map Seg.flip) (f v)) :
    ∀ vs, segListWith g vs = mapOk (List.map Seg.flip) (segListWith f vs) := by
  intro vs
  induction vs with
  | nil => rfl
  | cons v vs ih => simp only [segListWith, h v, ih, mapOk_bind, bind_mapOk, mapOk_ok, List.map_append]

theorem segPad_dual (pad : Option Nat) (ss : List Seg) :
    segPad pad (ss.map Seg.flip) = mapOk (List.map Seg.flip) (segPad pad ss) := by
  cases pad with
  | none => rfl
  | some p =>
    simp only [segPad, flatten_flip_length]
    split
    · simp [Seg.flip]
    · rfl

/-- the duality at every level of a layout; a body both as a whole (`segBody`) and as an ancestor around a child's
    segments (`segAround`) -/
theorem dual_all (m : Mode) :
    (∀ t v, segTy (cfgB m) t v = mapOk (List.map Seg.flip) (segTy (cfgL m) t v)) ∧
    (∀ i all pL pl v, segItem (cfgB m) all (mapOk (List.map Seg.flip) pL) pl v i
      = mapOk (List.map Seg.flip) (segItem (cfgL m) all pL pl v i)) ∧
    (∀ is all pL pl v, segItems (cfgB m) all (mapOk (List.map Seg.flip) pL) pl v is
      = mapOk (List.map Seg.flip) (segItems (cfgL m) all pL pl v is)) ∧
    (∀ b, (∀ v, segBody (cfgB m) b v = mapOk (List.map Seg.flip) (segBody (cfgL m) b v)) ∧
      (∀ v inner len, segAround (cfgB m) b v (mapOk (List.map Seg.flip) inner) len
        = mapOk (List.map Seg.flip) (segAround (cfgL m) b v inner len))) := by
  apply Layout.induction
  case scalar => exact fun w v => intSeg_dual _ _ (encTy_leaf_dual m (.scalar w) v trivial)
  case enumTy => exact fun n en v => intSeg_dual _ _ (encTy_leaf_dual m (.enumTy n en) v trivial)
  case custom => exact fun n w v => intSeg_dual _ _ (encTy_leaf_dual m (.custom n w) v trivial)
  case struct =>
    intro nm b ih v
    simp only [segTy]
    exact ih.1 v
  case chunk =>
    intro fs all pL pl v
    simp only [segItem, mapOk_bind, mapOk_ok]; rfl
  case typedef =>
    intro id ty sb ih all pL pl v
    simp only [segItem]
    cases v.get? id with
    | none => rfl
    | some x => exact ih x
  case optional =>
    intro id ty cid cv ih all pL pl v
    simp only [segItem]
    cases v.get? id with
    | none => rfl
    | some x =>
      cases ty with
      | scalar w =>
        -- the range check of an optional scalar does not depend on the byte order
        cases x with
        | int n =>
          simp only
          split
          · rfl
          · split <;> rfl
        | _ => rfl
      | _ =>
        cases x with
        | null => rfl
        | _ => exact ih _
  case payload => intro _ all pL pl v; simp only [segItem]
  case array =>
    intro id elem ew shape pad ih all pL pl v
    simp only [segItem, mapOk_bind, bind_mapOk, ← segPad_dual,
      segListWith_dual (segTy (cfgL m) elem) (segTy (cfgB m) elem) ih]
  case nil => exact fun _ _ _ _ => rfl
  case cons =>
    intro i r ihi ihr all pL pl v
    simp only [segItems, ihi all pL pl v, ihr all pL pl v, mapOk_bind, bind_mapOk, mapOk_ok, List.map_append]
  case root =>
    intro nm items ih
    refine ⟨fun v => ?_, fun v inner len => ih items inner len v⟩
    simp only [segBody]
    split
    · rfl
    · rename_i p _
      exact ih items (.ok [{ bytes := p, swap := false }]) p.length v
  case derived =>
    intro nm parent cs allCs items ihp ih
    refine ⟨fun v => ?_, fun v inner len => ?_⟩
    · simp only [segBody]
      split
      · rfl
      · rename_i p _
        rw [← ihp.2, ← ih]; rfl
    · simp only [segAround]
      rw [ih items inner len v]
      exact ihp.2 v _ _

theorem segTy_dual (m : Mode) : ∀ (t : Ty) (v : Value),
    segTy (cfgB m) t v = mapOk (List.map Seg.flip) (segTy (cfgL m) t v) := (dual_all m).1

theorem segItem_dual (m : Mode) (all : Items) (pL : Enc (List Seg)) (pl : Nat) (v : Value) :
    ∀ (i : Item),
    segItem (cfgB m) all (mapOk (List.map Seg.flip) pL) pl v i
      = mapOk (List.map Seg.flip) (segItem (cfgL m) all pL pl v i) := fun i => (dual_all m).2.1 i all pL pl v

theorem segItems_dual (m : Mode) (all : Items) (pL : Enc (List Seg)) (pl : Nat) (v : Value) :
    ∀ (is : Items),
    segItems (cfgB m) all (mapOk (List.map Seg.flip) pL) pl v is
      = mapOk (List.map Seg.flip) (segItems (cfgL m) all pL pl v is) := fun is => (dual_all m).2.2.1 is all pL pl v

theorem segAround_dual (m : Mode) : ∀ (b : Body) (v : Value) (inner : Enc (List Seg)) (len : Nat),
    segAround (cfgB m) b v (mapOk (List.map Seg.flip) inner) len
      = mapOk (List.map Seg.flip) (segAround (cfgL m) b v inner len) := fun b => ((dual_all m).2.2.2 b).2

/-- **Endianness duality**: the big-endian encoding of a value has the same segments as the
    little-endian one, with exactly the integer-valued segments byte-reversed; in particular
    both succeed or fail together, with the same error. -/
theorem endian_dual (m : Mode) (b : Body) (v : Value) :
    segBody (cfgB m) b v = mapOk (List.map Seg.flip) (segBody (cfgL m) b v) :=
  ((dual_all m).2.2.2 b).1 v

/-- … hence the two encodings have the same length -/
theorem endian_dual_length (m : Mode) (b : Body) (v : Value) (sl sb : List Seg)
    (hl : segBody (cfgL m) b v = .ok sl) (hb : segBody (cfgB m) b v = .ok sb) :
    (flatten sb).length = (flatten sl).length := by
  rw [endian_dual m b v, hl] at hb
  simp only [mapOk, Outcome.ok.injEq] at hb
  rw [← hb]; exact flatten_flip_length sl

/-- non-vacuity: `{ a: 4, b: 12, x: 24[1], _payload_ }` — groups and elements swap, the payload does not -/
example :
    let b : Body := .root "P" (.cons (.chunk [.scalar "a" 4, .scalar "b" 12])
      (.cons (.array "x" (.scalar 24) (.static 3) (.static 1) none) (.cons (.payload .last) .nil)))
    let v : Value := .obj [("a", .int 1), ("b", .int 0x234), ("x", .arr [.int 0x0a0b0c]), ("payload", .arr [.int 1, .int 2])]
    (mapOk flatten (segBody (cfgL .rust) b v), mapOk flatten (segBody (cfgB .rust) b v))
      = (.ok [0x41, 0x23, 0x0c, 0x0b, 0x0a, 1, 2], .ok [0x23, 0x41, 0x0a, 0x0b, 0x0c, 1, 2]) := by rfl

end Pdlv
