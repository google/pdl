/-
  C16 — static size annotations are sound.

  * the `Size` lattice of analyzer.rs behaves as "constant iff every part is constant";
  * `static_sound`: whenever the layout of a packet / struct / field is classified as having the
    constant size n, EVERY encoding the encoder model produces for it has exactly n octets — for
    all values, by structural induction over the layout (arrays at their padded size).
  The tie of `Schema` / `staticBody` to the real `analyzer::Schema` is the per-run comparison of
  `bin/check C16` (several thousand declarations per run).
-/
import Pdlv.Static
import Pdlv.Schema
import Pdlv.Lemmas.Enc
import Pdlv.Lemmas.Layout

namespace Pdlv
open Outcome

theorem Size.add_def (a b : Size) : a + b = Size.add a b := rfl

theorem Size.add_static_iff (a b : Size) (n : Nat) :
    a + b = .static n ↔ ∃ x y, a = .static x ∧ b = .static y ∧ n = x + y := by
  rw [Size.add_def]
  cases a <;> cases b <;> simp [Size.add]
  omega

theorem Size.add_comm (a b : Size) : a + b = b + a := by
  rw [Size.add_def, Size.add_def]
  cases a <;> cases b <;> simp [Size.add, Nat.add_comm]

theorem Size.add_assoc (a b c : Size) : a + b + c = a + (b + c) := by
  simp only [Size.add_def]
  cases a <;> cases b <;> cases c <;> simp [Size.add, Nat.add_assoc]

/-- a declaration has a constant total size exactly when its own fields, its parents' fields
    and its payload all have one -/
theorem total_static_iff (s : DeclSizes) (n : Nat) :
    s.total = .static n ↔
      ∃ d p q, s.declSize = .static d ∧ s.parentSize = .static p ∧ s.payloadSize = .static q ∧ n = d + p + q := by
  unfold DeclSizes.total
  constructor
  · intro h
    obtain ⟨x, q, h1, h2, rfl⟩ := (Size.add_static_iff _ _ _).mp h
    obtain ⟨d, p, h3, h4, rfl⟩ := (Size.add_static_iff _ _ _).mp h1
    exact ⟨d, p, q, h3, h4, h2, rfl⟩
  · rintro ⟨d, p, q, h1, h2, h3, rfl⟩
    rw [h1, h2, h3]; rfl

/-- a part of unknown size makes the whole unknown -/
theorem Size.add_unknown (a : Size) : a + .unknown = .unknown := by cases a <;> rfl
theorem Size.unknown_add (a : Size) : Size.unknown + a = .unknown := by cases a <;> rfl

/-- `unknown` only arises from an unknown part: the sum of parts that are each static or
    dynamic is never unknown -/
theorem Size.add_ne_unknown (a b : Size) (ha : a ≠ .unknown) (hb : b ≠ .unknown) : a + b ≠ .unknown := by
  rw [Size.add_def]
  cases a <;> cases b <;> simp_all [Size.add]

theorem static_all (c : Cfg) :
    (∀ t v bs n, staticTy t = some n → encTy c t v = .ok bs → bs.length = n) ∧
    (∀ i all p pl v bs n, staticItem i = some n → encItem c all p pl v i = .ok bs → bs.length = n) ∧
    (∀ is all p pl v bs n, staticItems is = some n → encItems c all p pl v is = .ok bs → bs.length = n) ∧
    (∀ b v bs n, staticBody b = some n → encBody c b v = .ok bs → bs.length = n) := by
  apply Layout.induction
  case scalar =>
    intro w v bs n hs he
    obtain ⟨x, _, _, _, rfl⟩ := encTy_scalar_ok_iff.mp he
    rw [putUint_length]; exact Option.some.inj hs
  case enumTy =>
    intro nm en v bs n hs he
    obtain ⟨x, _, _, rfl⟩ := encTy_enumTy_ok_iff.mp he
    rw [putUint_length]; exact Option.some.inj hs
  case custom =>
    intro nm w v bs n hs he
    obtain ⟨x, _, _, rfl⟩ := encTy_custom_ok_iff.mp he
    rw [putUint_length]; exact Option.some.inj hs
  case struct =>
    intro nm b ih v bs n hs he
    simp only [staticTy] at hs
    simp only [encTy] at he
    exact ih v bs n hs he
  case chunk =>
    exact fun fs all p pl v bs n hs he => (encChunk_length c all p pl v fs bs he).trans (Option.some.inj hs)
  case array =>
    intro id elem ew shape pad ih all p pl v bs n hs he
    obtain ⟨vs, es, _, hcnt, _, hes, hpad⟩ := encItem_array_ok_iff.mp he
    rw [padTo_length hpad]
    cases pad with
    | some q => exact Option.some.inj hs
    | none =>
      -- no padding: a constant count of elements of constant size
      cases shape with
      | static k =>
        obtain ⟨w, hw, rfl⟩ := Option.map_eq_some_iff.mp hs
        rw [Option.getD_none, encListWith_length_const (fun x b hx => ih x b w hw hx) hes, hcnt k rfl]
      | _ => cases hs
  case typedef =>
    intro id ty sb ih all p pl v bs n hs he
    obtain ⟨x, _, hx⟩ := encItem_typedef_ok_iff.mp he
    exact ih x bs n hs hx
  case optional => intro _ _ _ _ _ _ _ _ _ _ _ hs _; cases hs
  case payload => intro _ _ _ _ _ _ _ hs _; cases hs
  case nil => intro all p pl v bs n hs he; cases hs; cases he; rfl
  case cons =>
    intro i r ihi ihr all p pl v bs n hs he
    obtain ⟨x, y, hx, hy, rfl⟩ := encItems_cons_ok_iff.mp he
    simp only [staticItems] at hs
    split at hs
    · rename_i a b ha hb
      cases hs
      rw [List.length_append, ihi all p pl v x a ha hx, ihr all p pl v y b hb hy]
    · cases hs
  case root =>
    intro nm items ih v bs n hs he
    obtain ⟨p, _, hp⟩ := encBody_root_ok_iff.mp he
    exact ih items _ _ v bs n hs hp
  case derived => intro _ _ _ _ _ _ _ _ _ _ hs _; cases hs

theorem encTy_static (c : Cfg) : ∀ (t : Ty) (v : Value) (bs : Bytes) (n : Nat),
    staticTy t = some n → encTy c t v = .ok bs → bs.length = n := (static_all c).1

theorem encItem_static (c : Cfg) (all : Items) (p : Enc Bytes) (pl : Nat) (v : Value) :
    ∀ (i : Item) (bs : Bytes) (n : Nat),
    staticItem i = some n → encItem c all p pl v i = .ok bs → bs.length = n :=
  fun i => (static_all c).2.1 i all p pl v

theorem encItems_static (c : Cfg) (all : Items) (p : Enc Bytes) (pl : Nat) (v : Value) :
    ∀ (is : Items) (bs : Bytes) (n : Nat),
    staticItems is = some n → encItems c all p pl v is = .ok bs → bs.length = n :=
  fun is => (static_all c).2.2.1 is all p pl v

theorem encBody_static (c : Cfg) : ∀ (b : Body) (v : Value) (bs : Bytes) (n : Nat),
    staticBody b = some n → encBody c b v = .ok bs → bs.length = n := (static_all c).2.2.2

/-- **Static sizes are sound**: a packet or struct classified as having the constant size `n`
    octets is encoded on exactly `n` octets, for every value, in both byte orders and in both
    the emitted-code and the reference mode of the encoder. -/
theorem static_sound (c : Cfg) (b : Body) (v : Value) (bs : Bytes) (n : Nat)
    (hs : staticBody b = some n) (he : encBody c b v = .ok bs) : 8 * bs.length = 8 * n := by
  rw [encBody_static c b v bs n hs he]


/-! ### what "dynamic" and "unknown" mean (the model of `annotate_field`) -/

/-- a field whose classification is inherited from the declaration(s) it is typed by -/
def typedBy (f : Field) : Option (String × Nat) :=
  match f.desc with
  | .typedef _ t | .fixedEnum t _ | .group t _ => some (t, 1)
  | .array _ none (some t) _ (some n) => some (t, n)
  | _ => none

theorem Size.dynamic_eq_ite {c : Bool} (h : Size.dynamic = if c then Size.dynamic else Size.unknown) : c = true := by
  cases c with
  | true => rfl
  | false => cases h

theorem Size.unknown_eq_ite {c : Bool} (h : Size.unknown = if c then Size.dynamic else Size.unknown) : c = false := by
  cases c with
  | true => cases h
  | false => rfl

/-- where a classification other than a constant comes from: the condition of an optional field, the presence or
    absence of a size field for a payload / body, of a size or count field for an array without constant count, or
    the declaration the field is typed by -/
theorem fieldSize_not_static (env : SEnv) (fs : List Field) (f : Field) (sz : Size)
    (h : fieldSize env fs f = some sz) (hs : ∀ k, sz ≠ .static k) :
    (f.cond.isSome = true ∧ sz = .dynamic) ∨
    (f.cond.isSome = false ∧
      (((f.desc = .body ∨ ∃ m, f.desc = .payload m) ∧ sz = if hasPayloadSize fs then .dynamic else .unknown) ∨
       (∃ id w t m, f.desc = .array id w t m none ∧ sz = if hasArraySize fs id then .dynamic else .unknown) ∨
       (∃ t n s, typedBy f = some (t, n) ∧ env.lookup t = some s ∧ s.total = sz))) := by
  simp only [fieldSize] at h
  split at h
  · exact Or.inl ⟨‹_›, (Option.some.inj h).symm⟩
  · rename_i hc
    refine Or.inr ⟨by simpa using hc, ?_⟩
    split at h
    all_goals try exact absurd (Option.some.inj h).symm (hs _)
    · rename_i hd; exact Or.inl ⟨Or.inl hd, (Option.some.inj h).symm⟩
    · rename_i m hd; exact Or.inl ⟨Or.inr ⟨m, hd⟩, (Option.some.inj h).symm⟩
    · rename_i id t hd
      obtain ⟨s, hl, rfl⟩ := Option.map_eq_some_iff.mp h
      exact Or.inr (Or.inr ⟨t, 1, s, by simp [typedBy, hd], hl, rfl⟩)
    · rename_i t tag hd
      obtain ⟨s, hl, rfl⟩ := Option.map_eq_some_iff.mp h
      exact Or.inr (Or.inr ⟨t, 1, s, by simp [typedBy, hd], hl, rfl⟩)
    · rename_i t cs hd
      obtain ⟨s, hl, rfl⟩ := Option.map_eq_some_iff.mp h
      exact Or.inr (Or.inr ⟨t, 1, s, by simp [typedBy, hd], hl, rfl⟩)
    · rename_i id t m n hd
      obtain ⟨s, hl, hm⟩ := Option.map_eq_some_iff.mp h
      refine Or.inr (Or.inr ⟨t, n, s, by simp [typedBy, hd], hl, ?_⟩)
      generalize s.total = st at hm ⊢
      cases st with
      | static a => exact absurd hm.symm (hs _)
      | _ => exact hm
    · rename_i id w t m hd
      exact Or.inr (Or.inl ⟨id, w, t, m, hd, (Option.some.inj h).symm⟩)
    · cases h

/-- **A part classified as dynamically sized is delimited**: by a condition flag (optional field), by a
    size field (payload / body), by a size or count field (array without a constant count) — or it takes
    its classification from the declaration it is typed by (a struct that is dynamic for one of these
    reasons, or a custom field without a declared width) -/
theorem dynamic_delimited (env : SEnv) (fs : List Field) (f : Field) (h : fieldSize env fs f = some .dynamic) :
    f.cond.isSome = true ∨
    ((f.desc = .body ∨ ∃ m, f.desc = .payload m) ∧ hasPayloadSize fs = true) ∨
    (∃ id w t m, f.desc = .array id w t m none ∧ hasArraySize fs id = true) ∨
    (∃ t n s, typedBy f = some (t, n) ∧ env.lookup t = some s ∧ s.total = .dynamic) := by
  rcases fieldSize_not_static env fs f .dynamic h (fun _ => Size.noConfusion) with ⟨hc, _⟩ | ⟨_, ⟨hd, hp⟩ | ⟨id, w, t, m, hd, ha⟩ | ht⟩
  · exact Or.inl hc
  · exact Or.inr (Or.inl ⟨hd, Size.dynamic_eq_ite hp⟩)
  · exact Or.inr (Or.inr (Or.inl ⟨id, w, t, m, hd, Size.dynamic_eq_ite ha⟩))
  · exact Or.inr (Or.inr (Or.inr ht))

/-- **A part is classified as of unknown size only when nothing delimits it**: a payload / body without
    size field, an array with neither constant count nor size / count field — or a field typed by a
    declaration that is itself of unknown size -/
theorem unknown_only_undelimited (env : SEnv) (fs : List Field) (f : Field) (h : fieldSize env fs f = some .unknown) :
    f.cond.isSome = false ∧
    (((f.desc = .body ∨ ∃ m, f.desc = .payload m) ∧ hasPayloadSize fs = false) ∨
     (∃ id w t m, f.desc = .array id w t m none ∧ hasArraySize fs id = false) ∨
     (∃ t n s, typedBy f = some (t, n) ∧ env.lookup t = some s ∧ s.total = .unknown)) := by
  rcases fieldSize_not_static env fs f .unknown h (fun _ => Size.noConfusion) with ⟨_, hc⟩ | ⟨hc, ⟨hd, hp⟩ | ⟨id, w, t, m, hd, ha⟩ | ht⟩
  · cases hc
  · exact ⟨hc, Or.inl ⟨hd, Size.unknown_eq_ite hp⟩⟩
  · exact ⟨hc, Or.inr (Or.inl ⟨id, w, t, m, hd, Size.unknown_eq_ite ha⟩)⟩
  · exact ⟨hc, Or.inr (Or.inr ht)⟩

/-- non-vacuity: `struct S { a: 3, b: 13, x: 16[2] }` is static, 6 octets -/
example : staticBody (.root "S" (.cons (.chunk [.scalar "a" 3, .scalar "b" 13])
    (.cons (.array "x" (.scalar 16) (.static 2) (.static 2) none) .nil))) = some 6 := by rfl

end Pdlv
