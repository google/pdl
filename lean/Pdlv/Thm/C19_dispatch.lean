/-
  Pdlv.Thm.C19_dispatch — C19: the dispatch to child classes the Java back end emits (model: `Pdlv.JavaSpec`, tied to java/codegen/packet.rs by
  differential execution on every input of the run) against the reference's `decode_partial`.
-/
import Pdlv.Lemmas.JavaSpecAgree

namespace Pdlv
namespace JavaSpec

/-- **C19, dispatch: whatever is returned is right.**  For every root packet with a tree of children whose own fields are in
    the class of the parser theorems, struct-typed fields of static size included (`JavaSpec.wfNode`: decidable, evaluated per run), both byte orders and EVERY byte string
    a `byte[]` can hold: if `Root.fromBytes(b)` returns an object of class `T` with field values `v`, then the reference
    `decode_full` accepts `b` as the root, and `T` is either the root itself (its fallback child `Unknown<Root>`) with the
    reference's values, or is reached from one of the root's children by one reference `decode_partial` per level —
    constraints checked, the child's fields parsed from the parent's payload with nothing left over — with exactly the
    values `v`.  The width test `payload.limit() == width / 8` and the first-fit order never make the emitted parser
    return a child the reference would not. -/
theorem java_dispatch_is_sound (c : Cfg) (nm : String) (items : Items) (fb : Bool) (ks : List Node)
    (hw : wfNode (.mk (.root nm items) fb ks) = true) (bs : Bytes) (T : String) (v : Value)
    (h : parseAll c (.mk (.root nm items) fb ks) bs = .ok (T, v)) :
    ∃ v0, Pdlv.decodeFull (ideal c) (.root nm items) bs = .ok v0 ∧
      ((T = nm ∧ v = v0) ∨ ∃ k, k ∈ ks ∧ Reaches c k v0 T v) := by
  simp only [wfNode, Bool.and_eq_true] at hw
  simp only [parseAll, Outcome.ite_panic_eq_ok, Outcome.bind_ok_iff, Outcome.ite_else_err_eq_ok] at h
  obtain ⟨hlen, ⟨st, rest⟩, h1, r, hd, hre, h3⟩ := h
  cases h3
  have hj : Java.decodeFullS c (.root nm items) bs = .ok (assemble st []) := by
    simp only [Java.decodeFullS, h1, Outcome.ok_bind, hre, ↓reduceIte, assemble, List.append_nil]
    generalize st.payload = q
    cases q <;> rfl
  have hr := (Java.decode_same3 c nm items hw.1 bs (by omega) _).mp hj
  refine ⟨assemble st [], hr, ?_⟩
  by_cases hpl : items.hasPayload = true
  · simp only [hpl, ↓reduceIte] at hd
    rcases dispatch_sound c ks hw.2 nm fb _ T v hd with ⟨_, hT, hv⟩ | hk
    · exact Or.inl ⟨hT, hv⟩
    · exact Or.inr hk
  · simp only [hpl, Bool.false_eq_true, ↓reduceIte, Outcome.ok.injEq, Prod.mk.injEq] at hd
    exact Or.inl ⟨hd.1.symm, hd.2.symm⟩

/-- **… the first fitting candidate is the one committed to** (declaration order; an exception in its parser is the result,
    there is no second try) -/
theorem java_dispatch_takes_the_first_fitting_child (c : Cfg) (nm : String) (fb : Bool) (pv : Value) (pre : List Node)
    (k : Node) (post : List Node) (hpre : ∀ k', k' ∈ pre → (candidate k' && fits pv k') = false)
    (hk : (candidate k && fits pv k) = true) :
    dispatch c nm fb pv (pre ++ k :: post) = fromPayload c k pv := by
  induction pre with
  | nil => simp [dispatch, hk]
  | cons p pre ih =>
    simp only [List.cons_append, dispatch, hpre p (List.mem_cons_self ..), Bool.false_eq_true, ↓reduceIte]
    exact ih fun k' hk' => hpre k' (List.mem_cons_of_mem _ hk')

/-- **… and the fallback child is built only when no candidate fits**; a candidate that does not fit because one of its
    constraints does not hold is one the reference's `decode_partial` rejects as well. -/
theorem java_falls_back_only_if_no_candidate_fits (c : Cfg) (nm : String) (fb : Bool) (pv : Value) (ks : List Node)
    (T : String) (v : Value) (h : dispatch c nm fb pv ks = .ok (T, v))
    (hno : ∀ k, k ∈ ks → ∀ r, fromPayload c k pv ≠ .ok r) :
    (fb = true ∧ T = nm ∧ v = pv) ∧ ∀ k, k ∈ ks → (candidate k && fits pv k) = false := by
  have hall := dispatch_none_fits c nm fb pv T v ks h hno
  rw [dispatch_fallback c nm fb pv ks hall] at h
  obtain ⟨hfb, h⟩ := Outcome.ite_else_err_eq_ok.mp h
  cases h
  exact ⟨⟨hfb, rfl, rfl⟩, hall⟩

/-- **… so a fallback means the reference accepts none of the candidates either.**  If the emitted parser builds the fallback
    child (no child's `fromPayload` is entered), then for every candidate child of the tree whose own fields are in the class
    of the parser theorem the reference's `decode_partial` rejects the parent value: a violated constraint is a
    `ConstraintValue` error, and a static width that differs from the payload's length leaves octets over or runs short
    (`decItems_exact_len`).  The width test of `fits_childs_constraints` never hides a child the reference would accept. -/
theorem java_fallback_means_no_candidate_is_accepted (c : Cfg) (pv : Value) (nm : String) (parent : Body)
    (cs allCs : List (String × Nat)) (items : Items) (fb : Bool) (ks : List Node)
    (hw : wfNode (.mk (.derived nm parent cs allCs items) fb ks) = true)
    (hcand : candidate (.mk (.derived nm parent cs allCs items) fb ks) = true)
    (hfit : fits pv (.mk (.derived nm parent cs allCs items) fb ks) = false) (v : Value) :
    refChild c (.derived nm parent cs allCs items) pv ≠ .ok v := by
  simp only [wfNode, Bool.and_eq_true] at hw
  obtain ⟨⟨hp, hwi⟩, _⟩ := hw
  simp only [fits, Bool.and_eq_false_iff, Bool.not_eq_false'] at hfit
  rcases hfit with hv | hwd
  · simp only [refChild_eq, hv, ↓reduceIte]
    intro h; cases h
  · cases how : ownWidth items with
    | none => simp [how] at hwd
    | some w =>
      simp only [how] at hwd
      exact unfit_width c nm parent cs allCs items hp hwi w how pv hwd v

/-! non-vacuity: `packet R { k: 8, _payload_ }`, `packet A : R (k = 1) { x: 8 }`, `packet B : R (k = 2) { y: 16 }`;
    `02 34 12` is returned as a `B` with `y = 0x1234`; `02 34` fits `B`'s constraint but not its width: the fallback
    child `UnknownR` with the raw payload -/
example :
    let root : Body := .root "R" (.cons (.chunk [.scalar "k" 8]) (.cons (.payload .last) .nil))
    let a : Node := .mk (.derived "A" root [("k", 1)] [("k", 1)] (.cons (.chunk [.scalar "x" 8]) .nil)) false []
    let b : Node := .mk (.derived "B" root [("k", 2)] [("k", 2)] (.cons (.chunk [.scalar "y" 16]) .nil)) false []
    wfNode (.mk root true [a, b]) = true ∧
    parseAll { e := .little } (.mk root true [a, b]) [2, 0x34, 0x12] = .ok ("B", .obj [("y", .int 0x1234)]) ∧
    parseAll { e := .little } (.mk root true [a, b]) [2, 0x34] = .ok ("R", .obj [("k", .int 2), ("payload", .arr [.int 0x34])]) := by
  refine ⟨by decide, by rfl, by rfl⟩

/-- a child with neither a constraint nor a static width is never a candidate: `packet R { k: 8, _payload_ }`,
    `packet A : R { x: 8[] }` — `01 02 03` comes back as the fallback child although the reference's
    `A::decode_partial` accepts the parent (the property leaves the choice among unconstrained children open) -/
theorem unconstrained_dynamic_child_is_never_chosen :
    let root : Body := .root "R" (.cons (.chunk [.scalar "k" 8]) (.cons (.payload .last) .nil))
    let aBody : Body := .derived "A" root [] [] (.cons (.array "x" (.scalar 8) (.static 1) .unknown none) .nil)
    let a : Node := .mk aBody false []
    parseAll { e := .little } (.mk root true [a]) [1, 2, 3] = .ok ("R", .obj [("k", .int 1), ("payload", .arr [.int 2, .int 3])]) ∧
    refChild { e := .little } aBody (.obj [("k", .int 1), ("payload", .arr [.int 2, .int 3])]) =
      .ok (.obj [("x", .arr [.int 2, .int 3]), ("k", .int 1)]) := by
  refine ⟨by rfl, by rfl⟩

end JavaSpec
end Pdlv
