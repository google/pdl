/-
  Pdlv.Thm.C13 — the Python back end.  Facts about the bit-level reference `Pdlv.Ref` that the comparisons of C13 / C14 / C19 rely
  on (octets a group or scalar occupies, additivity of the length); then the model `Pdlv.Py` of the emitted parser and serializer
  against the reference, and the recorded deviations of python.rs as theorems about the model.
-/
import Pdlv.Thm.C03
import Pdlv.Lemmas.PyAgree
import Pdlv.Lemmas.PySer

namespace Pdlv
namespace Ref

theorem encTy_scalar_length (e : Endian) (k x : Nat) (bs : Bytes)
    (h : encTy e (.scalar (8 * k)) (.int x) = some bs) : bs.length = k := by
  simp only [encTy] at h
  split at h
  · simp only [Option.some.injEq] at h
    rw [← h, groupBytes_length, bitsOf_length]; omega
  · cases h

/-- `size` is additive: the encoding of a field list is the concatenation of the encodings of its fields -/
theorem encItems_length_cons (e : Endian) (arrs : List ArrInfo) (p : Bytes) (v : Value) (i : Item) (r : Items)
    (a b bs : Bytes) (ha : encItem e arrs p v i = some a) (hb : encItems e arrs p v r = some b)
    (h : encItems e arrs p v (.cons i r) = some bs) : bs.length = a.length + b.length := by
  simp only [encItems, ha, hb, Option.some.injEq] at h
  rw [← h, List.length_append]

theorem encItem_payload (e : Endian) (arrs : List ArrInfo) (p : Bytes) (v : Value) (m : PayloadMode) :
    encItem e arrs p v (.payload m) = some p := by simp [encItem]

theorem encItem_optional_absent (e : Endian) (arrs : List ArrInfo) (p : Bytes) (v : Value)
    (id : String) (ty : Ty) (cid : String) (cv : Nat) (h : v.get? id = some .null) :
    encItem e arrs p v (.optional id ty cid cv) = some [] :=
  refItem_optional_absent (by simp [isPresent, h])

example : encTy .big (.scalar 24) (.int 0x010203) = some [1, 2, 3] := by rfl

end Ref

namespace Py

/-- **C13, parser side.**  For every packet or struct without parent in the class `Py.wfBody` (decidable,
    evaluated per run: no one-octet reserved-only group, payload size modifier 0, after an unsized payload
    exactly the octets its generator keeps (a padded array at its padded size), no array size modifiers, no
    element-size or custom fields), both byte orders and EVERY byte string: the model of the `parse_all` python.rs
    emits accepts the input exactly when the reference `decode_full` does, and with the same field values — the
    single length check per static run, `parse_all` on the static slice of a typedef field, unbounded integer
    arithmetic notwithstanding. -/
theorem python_parser_agrees_with_reference (c : Cfg) (nm : String) (items : Items)
    (hw : wfBody (.root nm items) = true) (bs : Bytes) (v : Value) :
    Py.decodeFull c (.root nm items) bs = .ok v ↔
      Pdlv.decodeFull { e := c.e, mode := .ideal } (.root nm items) bs = .ok v :=
  (Cxx.Refines.bind ((refines_all c).2.2.2 _ hw bs) fun _ _ => Cxx.Refines.rfl).same v

/-- **C13, serializer side**: for every packet or struct without parent in `Py.serWfBody` (no element-size or custom
    fields, widths up to 64) that meets the hypotheses of C03, both byte orders, and every value the reference
    assigns an encoding to (through the reference-mode encoder): the model of the emitted `serialize()` succeeds
    and writes exactly `Ref.encode` — it performs fewer checks than the reference encoder (no flag consistency,
    no padding overflow, no enum validation), never different arithmetic -/
theorem python_serializer_writes_reference (c : Cfg) (b : Body) (hs : serWfBody b = true) (hr : refWfBody b = true)
    (v : Value) (bs : Bytes) (h : Pdlv.encBody { e := c.e, mode := .ideal } b v = .ok bs) :
    Py.encBody c b v = .ok bs ∧ Ref.encode c.e b v = some bs :=
  ⟨body_ideal_to_py c b v bs hs h, encode_ideal_eq_ref c.e b hr v bs h⟩

/-- deviation 1 (KF-C13-py-reserved8): `packet P { _size_(x): 8, x: 8[], _reserved_: 8 }` — the emitted parser
    accepts `00` (the reserved octet is missing), the reference rejects it; the layout is outside `wfBody` -/
theorem reserved_octet_unchecked :
    let items : Items := .cons (.chunk [.size "x" 8 0]) (.cons (.array "x" (.scalar 8) (.static 1) .sizeField none)
      (.cons (.chunk [.reserved 8]) .nil))
    (Py.decodeFull { e := .little } (.root "P" items) [0]).isOk = true ∧
    (Pdlv.decodeFull { e := .little, mode := .ideal } (.root "P" items) [0]).isOk = false ∧
    wfBody (.root "P" items) = false := by
  refine ⟨by decide +kernel, by decide +kernel, by decide +kernel⟩

/-- deviation 2 (KF-C13-py-payload-modifier): `packet P { _size_(_payload_): 8, _payload_: [+3], t: 8 }` — a size
    below the modifier slices from the end: `02 aa bb` is accepted, the reference rejects it -/
theorem payload_modifier_unguarded :
    let items : Items := .cons (.chunk [.size "_payload_" 8 3]) (.cons (.payload (.sized 3)) (.cons (.chunk [.scalar "t" 8]) .nil))
    (Py.decodeFull { e := .little } (.root "P" items) [2, 0xaa, 0xbb]).isOk = true ∧
    (Pdlv.decodeFull { e := .little, mode := .ideal } (.root "P" items) [2, 0xaa, 0xbb]).isOk = false ∧
    wfBody (.root "P" items) = false := by
  refine ⟨by decide +kernel, by decide +kernel, by decide +kernel⟩

/-- `packet P { k: 8, _payload_, tag: 8[2], _padding_[4] }`: the octets kept after an unsized payload include the padding of the
    array that follows (python.rs keeps its `padded_size`), so the reference encoding `01 aa 07 08 00 00` is accepted -/
theorem payload_tail_counts_padding :
    let items : Items := .cons (.chunk [.scalar "k" 8]) (.cons (.payload (.beforeStatic 4))
      (.cons (.array "tag" (.scalar 8) (.static 1) (.static 2) (some 4)) .nil))
    (Py.decodeFull { e := .little } (.root "P" items) [1, 0xaa, 7, 8, 0, 0]).isOk = true ∧
    wfBody (.root "P" items) = true := by
  refine ⟨by decide +kernel, by decide +kernel⟩

/-- non-vacuity: `packet P { _count_(x): 8, x: 16[], s: S, _payload_ }` with `struct S { a: 8, b: 8 }` is in the class -/
example : wfBody (.root "P" (.cons (.chunk [.count "x" 8]) (.cons (.array "x" (.scalar 16) (.static 2) .countField none)
    (.cons (.typedef "s" (.struct "S" (.root "S" (.cons (.chunk [.scalar "a" 8, .scalar "b" 8]) .nil))) (some 2))
    (.cons (.payload .last) .nil))))) = true := by decide +kernel

end Py
end Pdlv
