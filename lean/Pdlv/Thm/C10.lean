/-
  C10 — the compiler never crashes.

  Statements about the model of the analyzer (`Pdlv.Analyzer`, compared with analyzer::analyze on
  every run: verdict, codes and *panic site*).  The back ends' preconditions are modelled in
  `Pdlv.Backend` (compared with backends::*::generate on every accepted description of every run);
  the one theorem about them, `Backend.pre_json`, stands there.

  The full statement — `∀ f, ¬ (analyze f).isPanic` — is FALSE of the pinned tree: the panic
  sites below are reachable through the parser (witnesses in known_findings.json, replayed on the
  real analyzer on every run).  What is proved: every place the model can panic, the exact
  condition under which it does, and absence of panics in the passes whose only partial operation is
  excluded by what the parser guarantees.
-/
import Pdlv.Lemmas.Analyze

namespace Pdlv
namespace Analyzer

/-! ### the passes that return plain diagnostics cannot panic (by type); the others, site by site -/

/-- `check_decl_identifiers` never panics: it returns the sorted file or diagnostics -/
theorem checkDeclIdentifiers_no_panic (f : File) (p : APanic) : checkDeclIdentifiers f ≠ .panic p := by
  show (if _ then Res.ok _ else Res.diags _) ≠ _
  split <;> nofun

/-- what the parser guarantees about a condition `if id = v` / `if id = TAG`: exactly one of the two -/
def CondInv (f : File) : Prop :=
  ∀ d ∈ f.decls, ∀ fl ∈ d.fields, ∀ c, fl.cond = some c → c.value.isSome ∨ c.tagId.isSome

theorem optGo_none (fs : List Field) :
    ∀ (scope : List (String × Field)) (acc : List Diag × Option APanic),
      (∀ fl ∈ fs, ∀ c, fl.cond = some c → c.value.isSome ∨ c.tagId.isSome) → acc.2 = none →
      (checkOptionalFields.go scope acc fs).2 = none := by
  induction fs with
  | nil => intro scope acc _ h; simpa [checkOptionalFields.go] using h
  | cons fl fs ih =>
    intro scope acc hinv hacc
    unfold checkOptionalFields.go
    apply ih
    · intro g hg; exact hinv g (List.mem_cons_of_mem _ hg)
    · cases hc : fl.cond with
      | none => simpa using hacc
      | some c =>
        have hv := hinv fl (List.mem_cons_self ..) c hc
        simp only [hacc]
        cases htag : c.tagId with
        | some t => simp
        | none =>
          cases hval : c.value with
          | none => simp [hval, htag] at hv
          | some v => rcases v with _ | _ | n <;> simp

/-- **check_optional_fields** reaches its `unreachable!()` only on a condition with neither a value
    nor a tag; on every file the parser can return it does not panic. -/
theorem checkOptionalFields_no_panic (f : File) (h : CondInv f) (p : APanic) :
    checkOptionalFields f ≠ .panic p := by
  unfold checkOptionalFields
  simp only
  have h2 : (f.decls.foldl (fun acc d => checkOptionalFields.go [] acc d.fields) ([], none)).2 = none :=
    List.foldlRecOn (motive := fun acc => acc.2 = none) f.decls _ rfl
      fun acc hacc d hd => optGo_none d.fields [] acc (h d hd) hacc
  generalize hr : (f.decls.foldl (fun acc d => checkOptionalFields.go [] acc d.fields) ([], none)) = r at h2
  obtain ⟨ds, q⟩ := r
  simp only at h2
  subst h2
  simp only
  split <;> simp

/-! ### check_constraint: where it panics -/

/-- the field a constraint names, as `check_constraint` looks it up (own fields, then ancestors') -/
def constrained (f : File) (c : Constraint) (decl : Decl) : Option Field :=
  (iterFields f (f.decls.length + 1) decl).find? (fun fl => fl.id? == some c.id)

/-- **`Some(_) => unreachable!()` (analyzer.rs check_constraint)**, the arm after array, scalar and typedef, is
    reached when the constrained identifier names a `Flag` field — through the parser that is a 1-bit scalar
    that `desugar_flags` has turned into a `Flag` (known finding KF-C10-ana-constraintOnFlag). -/
theorem checkConstraint_flag_panic (f : File) (c : Constraint) (decl : Decl) (fl : Field) (id : String)
    (opt : List (String × Nat)) (hfind : constrained f c decl = some fl) (hfl : fl.desc = .flag id opt) :
    checkConstraint f c decl = ([], some .constraintOnFlag) := by
  unfold checkConstraint
  unfold constrained at hfind
  rw [hfind]
  simp [hfl]

/-- a constraint on a scalar field never panics when it carries a value or a tag (parser invariant) -/
theorem checkConstraint_scalar_no_panic (f : File) (c : Constraint) (decl : Decl) (fl : Field) (id : String) (w : Nat)
    (hfind : constrained f c decl = some fl) (hfl : fl.desc = .scalar id w)
    (hc : c.value.isSome ∨ c.tagId.isSome) : (checkConstraint f c decl).2 = none := by
  unfold checkConstraint
  unfold constrained at hfind
  rw [hfind]
  simp only [hfl]
  cases hv : c.value with
  | some v => simp only; split <;> rfl
  | none =>
    cases ht : c.tagId with
    | some t => rfl
    | none => simp [hv, ht] at hc

/-- a constraint on a typedef field never panics: the E21 arm of `check_constraint` reports the constraint
    without unwrapping its value -/
theorem checkConstraint_typedef_no_panic (f : File) (c : Constraint) (decl : Decl) (fl : Field) (id tid : String)
    (hfind : constrained f c decl = some fl) (hfl : fl.desc = .typedef id tid) :
    (checkConstraint f c decl).2 = none := by
  unfold checkConstraint
  unfold constrained at hfind
  rw [hfind]
  simp only [hfl]
  cases lookupDecl f tid with
  | none => rfl
  | some t =>
    simp only
    cases hd : t.desc <;> simp only
    case enum eid tags w =>
      cases c.tagId with
      | none => rfl
      | some tag =>
        simp only
        cases tags.find? (fun x => x.id == tag) with
        | none => rfl
        | some tg => cases tg <;> rfl

theorem checkConstraint_undeclared_no_panic (f : File) (c : Constraint) (decl : Decl)
    (hfind : constrained f c decl = none) : checkConstraint f c decl = ([mkD 15 [c.loc]], none) := by
  unfold checkConstraint
  unfold constrained at hfind
  rw [hfind]

/-! ### the pipeline: a panic of `analyze` is a panic of one of six sites -/

/-- **Every way `analyze` can panic**: `check_optional_fields`, `check_group_constraints`,
    `inline_groups`, `desugar_flags`, `check_decl_constraints`, or the size arithmetic of
    `Schema::new` / `check_field_offsets` / `check_decl_sizes`.  The scope, identifier, enum, size-field, fixed-field,
    payload, array and padding passes return diagnostics only. -/
theorem analyze_panic_sites (f : File) (p : APanic) (h : analyze f = .panic p) :
    ∃ g, checkDeclIdentifiers f = .ok g ∧
      (checkOptionalFields g = .panic p ∨ checkGroupConstraints g = .panic p ∨ inlineGroups g = .error p ∨
       ∃ g1, inlineGroups g = .ok g1 ∧ (desugarFlags g1 = .error p ∨
         ∃ g2, desugarFlags g1 = .ok g2 ∧ (checkDeclConstraints g2 = .panic p ∨
           (schemaPanics g2 = true ∧ p = .schemaOverflow) ∨ (Schema.build g2 = none ∧ p = .schemaLookup) ∨
           ∃ sc, Schema.build g2 = some sc ∧
             (((schemaOverflows sc || schemaSumOverflows g2 sc) = true ∧ p = .schemaOverflow) ∨ checkFieldOffsets g2 sc = .panic p ∨
              (declSizesOverflow g2 sc = true ∧ p = .offsetOverflow))))) := by
  simp only [analyze_eq, firstErr_eq_panic, Res.bind_eq_panic, bindE_eq_panic, bindO_eq_panic, panicIf_eq_panic, exists_unit,
    checkDeclIdentifiers_no_panic, false_or, reduceCtorEq, and_false, or_false] at h
  obtain ⟨-, g, hg, -, -, -, -, -, -, -, h⟩ := h
  -- what remains is to forget, at each site, that the passes before it returned `ok`
  exact ⟨g, hg, h.imp_right fun h => h.2.imp_right fun h => h.2.imp_right fun ⟨g1, h1, h⟩ => ⟨g1, h1,
    h.imp_right fun ⟨g2, h2, _, h⟩ => ⟨g2, h2, h.imp_right fun h => h.2.imp_right fun h => h.2.imp_right
      fun ⟨sc, hsc, h⟩ => ⟨sc, hsc, h.imp_right fun h => h.2.imp_right fun h => h.2⟩⟩⟩⟩

/-- a file with duplicate declaration identifiers (anything the scope pass reports) is answered with those
    diagnostics — never a panic, whatever else it contains -/
theorem analyze_early_diagnostics (f : File) (h : (scopeDiags f).isEmpty = false) :
    analyze f = .diags (scopeDiags f) := by
  rw [analyze_eq]
  exact firstErr_eq_diags.mpr (Or.inl ⟨by simpa using h, rfl⟩)

/-- the size arithmetic of `Schema::new` is the only place a *static array size* can crash the
    analyzer, and it does so exactly when `count * width` leaves `usize`
    (known finding KF-C10-ana-schemaOverflow) -/
theorem schemaPanics_iff (f : File) :
    schemaPanics f = true ↔ ∃ d ∈ f.decls, ∃ fl ∈ d.fields, ∃ id w t m n,
      fl.desc = .array id (some w) t m (some n) ∧ 2 ^ 64 ≤ n * w := by
  unfold schemaPanics
  simp only [List.any_eq_true]
  constructor
  · rintro ⟨d, hd, fl, hfl, hx⟩
    refine ⟨d, hd, fl, hfl, ?_⟩
    split at hx
    · rename_i id w t m n hdesc
      refine ⟨id, w, t, m, n, hdesc, ?_⟩
      simpa [usizeOk] using hx
    · cases hx
  · rintro ⟨d, hd, fl, hfl, id, w, t, m, n, hdesc, hn⟩
    refine ⟨d, hd, fl, hfl, ?_⟩
    simpa [hdesc, usizeOk] using hn

example : CondInv { endian := .little, decls := [{ desc := .packet "P" [] [
    { desc := .scalar "c" 1 }, { desc := .reserved 7 },
    { desc := .scalar "x" 8, cond := some { id := "c", value := some 1, tagId := none } }] none }] } := by
  intro d hd fl hfl c hc
  simp at hd; subst hd
  simp [Decl.fields] at hfl
  rcases hfl with rfl | rfl | rfl <;> simp at hc
  subst hc; simp

end Analyzer
end Pdlv
