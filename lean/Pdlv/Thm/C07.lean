/-
  Pdlv.Thm.C07 — C07: all back ends agree on the wire format.

  The reference is the hub: the per-back-end properties (C03/C04 Rust, C13 Python, C14 C++, C19 Java)
  state agreement with it; agreement with each other and interoperability follow.
-/
import Pdlv.Ref

namespace Pdlv
namespace Interop

/-- a back end, abstractly: a serializer and a (full) parser over the same value space -/
structure BackEnd where
  enc : Value → Option Bytes
  dec : Bytes → Option Value

def AgreesEnc (ref : Value → Option Bytes) (A : BackEnd) (v : Value) : Prop := A.enc v = ref v
def AgreesDec (refDec : Bytes → Option Value) (A : BackEnd) (b : Bytes) : Prop := A.dec b = refDec b

/-- **identical bytes**: two serializers that write the reference encoding write the same bytes -/
theorem serializers_agree (ref : Value → Option Bytes) (A B : BackEnd) (v : Value)
    (hA : AgreesEnc ref A v) (hB : AgreesEnc ref B v) : A.enc v = B.enc v := by
  rw [hA, hB]

/-- **parsers agree** on acceptance and on every field value -/
theorem parsers_agree (refDec : Bytes → Option Value) (A B : BackEnd) (b : Bytes)
    (hA : AgreesDec refDec A b) (hB : AgreesDec refDec B b) : A.dec b = B.dec b := by
  rw [hA, hB]

/-- **interoperability**: a packet written by code generated for one language is read back unchanged
    by code generated for any other, whenever the reference round-trips the value -/
theorem interop (ref : Value → Option Bytes) (refDec : Bytes → Option Value) (A B : BackEnd)
    (v : Value) (bs : Bytes)
    (hA : AgreesEnc ref A v) (href : ref v = some bs) (hrt : refDec bs = some v)
    (hB : AgreesDec refDec B bs) : ∃ out, A.enc v = some out ∧ B.dec out = some v := by
  refine ⟨bs, ?_, ?_⟩
  · rw [hA, href]
  · rw [hB, hrt]

/-- the relation is symmetric in the two back ends (no privileged writer) -/
theorem interop_symm (ref : Value → Option Bytes) (refDec : Bytes → Option Value) (A B : BackEnd)
    (v : Value) (bs : Bytes)
    (hA : AgreesEnc ref A v) (hB : AgreesEnc ref B v) (href : ref v = some bs) (hrt : refDec bs = some v)
    (hdA : AgreesDec refDec A bs) (hdB : AgreesDec refDec B bs) :
    (∃ out, A.enc v = some out ∧ B.dec out = some v) ∧ (∃ out, B.enc v = some out ∧ A.dec out = some v) :=
  ⟨interop ref refDec A B v bs hA href hrt hdB, interop ref refDec B A v bs hB href hrt hdA⟩

/-- non-vacuity: the reference itself, as a back end, satisfies the hypotheses on a concrete packet -/
example :
    let b : Body := .root "P" (.cons (.chunk [.scalar "a" 8]) .nil)
    let ref := fun v => Ref.encode .little b v
    AgreesEnc ref { enc := ref, dec := fun _ => none } (.obj [("a", .int 7)]) := rfl

end Interop
end Pdlv
