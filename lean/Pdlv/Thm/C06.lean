/-
  C06 — inheritance is coherent: constraints, specialization, parent/child conversion.

  Statements about the model of the emitted `specialize()` match (`Pdlv.Inherit`) and of
  `decode_partial` (`Pdlv.decPartial`).  The model's match table is compared structurally with
  the table extracted from the emitted Rust on every run (`bin/check C06`).
-/
import Pdlv.Inherit
import Pdlv.Lemmas.Dec

namespace Pdlv
namespace Inherit

/-- a parent value matches an arm of the emitted `match`: one of the arm's patterns holds of it -/
def ArmMatches (ids : List String) (a : Arm) (pv : Value) : Prop :=
  ∃ p ∈ a.pats, patMatches (ids.map fun k => (pv.get? k).bind Value.asNat?)
    (((pv.get? "payload").bind Value.asList?).getD []).length p = true

/-- **`specialize()` returns child X only when the parent's field values (and payload length,
    where children differ only in size) match a case of X** -/
theorem select_sound (ids : List String) (arms : List Arm) (pv : Value) (x : String)
    (h : select ids arms pv = some x) : ∃ a ∈ arms, a.child = x ∧ ArmMatches ids a pv := by
  obtain ⟨a, ha, hx⟩ := Option.map_eq_some_iff.mp h
  exact ⟨a, List.mem_of_find?_eq_some ha, hx, List.any_eq_true.mp (List.find?_some (p := fun (a : Arm) => a.pats.any _) ha)⟩

/-- **… and returns `None` exactly when no case of any child matches** -/
theorem select_none_iff (ids : List String) (arms : List Arm) (pv : Value) :
    select ids arms pv = none ↔ ∀ a ∈ arms, ¬ ArmMatches ids a pv := by
  unfold select
  simp only [Option.map_eq_none_iff, List.find?_eq_none, List.any_eq_true, not_exists, not_and]
  constructor
  · intro h a ha ⟨p, hp, hm⟩; exact h a ha p hp hm
  · intro h a ha p hp hm; exact h a ha ⟨p, hp, hm⟩

/-- when exactly one child has a matching case, that child is selected (no dependence on the
    order in which the arms were emitted) -/
theorem select_unique (ids : List String) (arms : List Arm) (pv : Value) (a : Arm)
    (ha : a ∈ arms) (hm : ArmMatches ids a pv)
    (huniq : ∀ b ∈ arms, ArmMatches ids b pv → b.child = a.child) :
    select ids arms pv = some a.child := by
  cases hs : select ids arms pv with
  | none =>
    exact absurd hm ((select_none_iff ids arms pv).mp hs a ha)
  | some x =>
    obtain ⟨b, hb, hbx, hbm⟩ := select_sound ids arms pv x hs
    rw [← hbx, huniq b hb hbm]

/-- **`Child::try_from(&parent)` fails with `ConstraintValueError` whenever a constraint of the
    child is violated by the parent's value** (the check precedes any parsing) -/
theorem decPartial_constraint_violated (c : Cfg) (parent : Body) (cs : List (String × Nat)) (items : Items)
    (pv : Value) (k : String) (cv : Nat) (hk : (k, cv) ∈ cs)
    (hv : parentField parent pv k ≠ some cv) :
    decPartial c parent cs items pv = .err .constraintValue := by
  have : violated parent pv cs = true := by
    simp only [violated, List.any_eq_true, bne_iff_ne, ne_eq]
    exact ⟨(k, cv), hk, hv⟩
  rw [decPartial, decPartialWith_eq, if_pos this]

/-- … and when every constraint of the child holds, the conversion goes on to parse the child's
    fields: the result is whatever parsing the parent's payload gives, never a spurious
    `ConstraintValueError` from this level -/
theorem decPartial_constraints_hold (c : Cfg) (parent : Body) (cs : List (String × Nat)) (items : Items)
    (pv : Value) (h : ∀ k cv, (k, cv) ∈ cs → parentField parent pv k = some cv)
    (hp : parent.hasPayload = false) :
    decPartial c parent cs items pv =
      .ok (.obj (pv.fields.filter fun (k, _) => k != "payload" && !(cs.any (·.1 == k)))) := by
  have : violated parent pv cs = false := by
    simp only [violated, List.any_eq_false, bne_iff_ne, ne_eq, Decidable.not_not]
    intro x hx; exact h x.1 x.2 hx
  rw [decPartial, decPartialWith_eq, this, hp]; rfl

/-- non-vacuity: `P { k: 8, _payload_ }`, `A : P (k = 1)`, `B : P (k = 2)`: k = 2 selects B -/
example :
    select ["k"] [{ child := "A", pats := [([some 1], none)] }, { child := "B", pats := [([some 2], none)] }]
      (.obj [("k", .int 2), ("payload", .arr [])]) = some "B" := by rfl

/-! ### an arm pattern is the conjunction of the case's constraints -/

/-- **the pattern the emitted `match` tests for a case is exactly "every constraint of the case holds of the
    parent's field values" (and, where children differ only in size, "the payload has the case's length")**:
    `ids` is the tuple of field names the match scrutinises; a case contributes `Some(value)` at the names it
    constrains and `_` elsewhere -/
theorem patMatches_iff (ids : List String) (c : SpecCase) (plen : Option Nat) (pv : Value) :
    patMatches (ids.map fun k => (pv.get? k).bind Value.asNat?)
      (((pv.get? "payload").bind Value.asList?).getD []).length (tupleOf ids c, plen) = true ↔
    (∀ k ∈ ids, ∀ x, List.lookup k c.constraints = some x → (pv.get? k).bind Value.asNat? = some x) ∧
    (∀ n, plen = some n → (((pv.get? "payload").bind Value.asList?).getD []).length = n) := by
  -- position by position: zipping two maps of `ids` is one map of `ids`
  simp only [patMatches, tupleOf, List.zip_map', List.all_map, Bool.and_eq_true, List.all_eq_true, Function.comp]
  refine and_congr (forall₂_congr fun k _ => ?_) ?_
  · cases List.lookup k c.constraints <;> simp
  · cases plen <;> simp

/-- `specialize()` returns child `x` only if some case of `x` — a set of accumulated constraints of `x` or of
    a descendant of `x`, gathered by `gather_specialize_cases` — holds of the parent value, constraint by
    constraint -/
theorem select_sound_constraints (ids : List String) (keep : List SpecCase) (withSize : Bool) (pv : Value) (x : String)
    (arms : List Arm)
    (harms : ∀ a ∈ arms, ∀ p ∈ a.pats, ∃ c ∈ keep, c.id = a.child ∧
      p = (tupleOf ids c, if withSize then (match c.size with | .static s => some (s / 8) | _ => none) else none))
    (h : select ids arms pv = some x) :
    ∃ c ∈ keep, c.id = x ∧
      ∀ k ∈ ids, ∀ v, List.lookup k c.constraints = some v → (pv.get? k).bind Value.asNat? = some v := by
  obtain ⟨a, ha, hax, p, hp, hm⟩ := select_sound ids arms pv x h
  obtain ⟨c, hc, hcid, rfl⟩ := harms a ha p hp
  exact ⟨c, hc, by rw [hcid, hax], ((patMatches_iff ids c _ pv).mp hm).1⟩

/-! ### the emitted table consists of gathered cases -/

/-- every pattern of every arm of the emitted `match` is the pattern of a case that
    `gather_specialize_cases` collected for that child (or a descendant of it) -/
theorem table_arms_from_cases (f : File) (sc : List DeclSchema) (d : Decl) (ids : List String) (withSize : Bool)
    (arms : List Arm) (h : table f sc d = some (ids, withSize, arms)) :
    ∀ a ∈ arms, ∀ p ∈ a.pats, ∃ c ∈ allCases f sc d, c.id = a.child ∧
      p = (tupleOf ids c, if withSize then (match c.size with | .static s => some (s / 8) | _ => none) else none) := by
  simp only [table] at h
  split at h
  · cases h
  · simp only [Option.some.injEq, Prod.mk.injEq] at h
    obtain ⟨rfl, rfl, rfl⟩ := h
    intro a ha p hp
    simp only [List.mem_map] at ha
    obtain ⟨cid, _, rfl⟩ := ha
    simp only at hp
    have hp' := List.mem_eraseDups.mp hp
    simp only [List.mem_map, List.mem_filter, beq_iff_eq] at hp'
    obtain ⟨c, ⟨⟨hc, _⟩, hcid⟩, rfl⟩ := hp'
    exact ⟨c, hc, hcid, rfl⟩

/-- **C06, `specialize()` selects only on matching constraints**: for the table the generator emits, a parent
    value is dispatched to child `x` only if every constraint of some gathered case of `x` holds of it -/
theorem specialize_selects_on_constraints (f : File) (sc : List DeclSchema) (d : Decl) (ids : List String)
    (withSize : Bool) (arms : List Arm) (h : table f sc d = some (ids, withSize, arms)) (pv : Value) (x : String)
    (hs : select ids arms pv = some x) :
    ∃ c ∈ allCases f sc d, c.id = x ∧
      ∀ k ∈ ids, ∀ v, List.lookup k c.constraints = some v → (pv.get? k).bind Value.asNat? = some v :=
  select_sound_constraints ids (allCases f sc d) withSize pv x arms (table_arms_from_cases f sc d ids withSize arms h) hs

end Inherit
end Pdlv
