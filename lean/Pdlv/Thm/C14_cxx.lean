/-
  C14 — the parsers the C++ back end emits (model: `Pdlv.Cxx`, tied to cxx.rs / packet_runtime.h by
  differential execution on every input of the run) against the reference decoder.
-/
import Pdlv.Lemmas.CxxAgree
import Pdlv.Lemmas.CxxView
import Pdlv.Lemmas.CxxChild
import Pdlv.Lemmas.CxxSer
import Pdlv.Thm.C03

namespace Pdlv
namespace Cxx

/-- **C14, struct parsers: conformance.**  For every struct without parent in the class `Cxx.wfBody`
    (decidable, evaluated per run on every generated layout: no array size modifier, an undelimited struct
    field only as the last field, count fields of statically sized elements at most 16 bits wide, padding
    only after a statically counted array of scalars that fits it, no element-size or custom fields), both byte orders and EVERY byte string shorter than 2^64
    octets: `T::Parse(span, &out)` as cxx.rs emits it succeeds exactly when the reference decoder accepts,
    with the same field values and the same octets left — the single `span.size()` check per run of
    bit-field groups, the unguarded `read_le` / `read_be` of array elements behind one product check, and the
    C++ integer arithmetic of `element_size * count` notwithstanding. -/
theorem struct_parser_agrees_with_reference (c : Cfg) (nm : String) (items : Items)
    (hw : wfBody (.root nm items) = true) (bs : Bytes) (hb : bs.length < usizeMax) (res : Value × Bytes) :
    Cxx.decBody c (.root nm items) bs = .ok res ↔
      Pdlv.decBody { e := c.e, mode := .ideal } (.root nm items) bs = .ok res :=
  (struct_parser_refines_reference c nm items hw bs hb).1 res

/-- **C14, struct parsers: no undefined behaviour.**  On the same class (and the layouts the decoder
    generator handles, `decWfBody`), no byte string drives the emitted parser into a slice accessor called
    beyond its slice (`assert` in `read_le` / `read_be` / `subrange` / `skip`, an invalid slice or
    `std::out_of_range` with NDEBUG), a remainder by zero or a non-terminating loop: every read is dominated by
    a check that covers it. -/
theorem struct_parser_no_undefined_behaviour (c : Cfg) (nm : String) (items : Items)
    (hw : wfBody (.root nm items) = true) (hd : decWfBody (.root nm items) = true)
    (bs : Bytes) (hb : bs.length < usizeMax) (h : Hazard) :
    Cxx.decBody c (.root nm items) bs ≠ .panic h :=
  (struct_parser_refines_reference c nm items hw bs hb).no_panic (decode_no_panic_ideal c.e (.root nm items) hd bs) h

/-- **C14, packet views: conformance.**  For every packet without parent in the class `Cxx.vwfBody` (decidable,
    evaluated per run: the struct-parser class with arrays of scalars of at least one octet only — the view
    parser validates no array element and the getters are lenient, so arrays of enums and structs are the
    recorded deviations KF-C14-enum-array / -struct-array-*), both byte orders and EVERY byte string shorter
    than 2^64 octets: `TView::Create(bytes).IsValid()` holds exactly when the reference `decode_full` accepts the
    octets, and then the getters (`GetX()`, which parse the kept slices again) return the reference's field
    values. -/
theorem view_agrees_with_reference (c : Cfg) (nm : String) (items : Items)
    (hw : vwfBody (.root nm items) = true) (bs : Bytes) (hb : bs.length < usizeMax) (v : Value) :
    viewDecode c (.root nm items) bs = .ok v ↔
      Pdlv.decodeFull { e := c.e, mode := .ideal } (.root nm items) bs = .ok v :=
  (view_refines_reference c nm items hw bs hb).1 v

/-- **C14, packet views: no undefined behaviour.**  On the same class (and `decWfBody`), constructing a view
    over ANY byte string and calling its getters reaches no slice accessor called beyond its slice, no remainder
    by zero and no endless loop — in the parser (`read_le` / `subrange` / `skip` behind the size checks of
    `parse_array_field_lite`) or in a getter (whose failed assertion would surface only on a valid view). -/
theorem view_no_undefined_behaviour (c : Cfg) (nm : String) (items : Items)
    (hw : vwfBody (.root nm items) = true) (hd : decWfBody (.root nm items) = true)
    (bs : Bytes) (hb : bs.length < usizeMax) (h : Hazard) :
    viewDecode c (.root nm items) bs ≠ .panic h :=
  (view_refines_reference c nm items hw bs hb).no_panic (decode_full_no_panic_ideal c.e (.root nm items) hd bs) h

/-- **C14, serializers.**  For every packet or struct without parent in `Cxx.serWfBody` (no element-size or custom
    fields, widths up to 64, every condition flag governs exactly one optional field) that meets the hypotheses of
    C03, both byte orders, and every value the reference assigns an encoding to: the model of the emitted
    `Builder::Serialize` / `T::Serialize` writes exactly `Ref.encode` — the emitted code checks nothing (a scalar is
    masked, sizes and counts are shifted in as they are, the flag is read off the optional field), and on the values
    the reference admits that is the reference's arithmetic. -/
theorem serializer_writes_reference (c : Cfg) (b : Body) (hs : serWfBody b = true) (hr : refWfBody b = true)
    (v : Value) (bs : Bytes) (h : Pdlv.encBody { e := c.e, mode := .ideal } b v = .ok bs) :
    Cxx.encBody c b v = .ok bs ∧ Ref.encode c.e b v = some bs :=
  ⟨body_ideal_to_cxx c b v bs hs h, encode_ideal_eq_ref c.e b hr v bs h⟩

/-! ### the recorded deviations, as theorems about the model (each is replayed on the emitted code) -/

/-- the emitted serializer has no `SizeOverflow`: `packet P { _size_(_payload_): 4, t: 4, _payload_ }` with a payload
    of 16 octets — the reference refuses the value, the size spills into the field above it in C++ (outside the
    model: the outcome is marked unmodelled) -/
theorem serializer_has_no_size_check :
    let items : Items := .cons (.chunk [.size "_payload_" 4 0, .scalar "t" 4]) (.cons (.payload (.sized 0)) .nil)
    let v : Value := .obj [("t", .int 1), ("payload", Value.ofBytes (List.replicate 16 7))]
    Pdlv.encBody { e := .little, mode := .ideal } (.root "P" items) v = .err .sizeOverflow ∧
    Cxx.encBody { e := .little } (.root "P" items) v = .panic .badLayout := by
  refine ⟨by rfl, by rfl⟩

/-- **KF-C14-enum-array**: `enum E : 8 { A = 1 } packet P { a: E[] }` — the view over `05 01` is valid although 5
    is not a value of the closed enum, and the getter returns it -/
theorem view_does_not_validate_enum_elements :
    let en : Enum.Decl := { width := 8, tags := [.value { id := "A", value := 1 }] }
    (viewDecode { e := .little } (.root "P" (.cons (.array "a" (.enumTy "E" en) (.static 1) .unknown none) .nil))
      [5, 1]).isOk = true ∧
    (Pdlv.decodeFull { e := .little, mode := .ideal }
      (.root "P" (.cons (.array "a" (.enumTy "E" en) (.static 1) .unknown none) .nil)) [5, 1]).isOk = false := by
  refine ⟨by decide +kernel, by decide +kernel⟩

/-- **KF-C14-wide-count-assert**: `struct S { _count_(a): 32, a: 32[] }` — the product `4 * count` wraps at
    2^32, the bounds check passes and the loop reads past the slice -/
theorem wide_count_reads_past_the_slice :
    Cxx.decBody { e := .little } (.root "S" (.cons (.chunk [.count "a" 32])
        (.cons (.array "a" (.scalar 32) (.static 4) .countField none) .nil)))
      [0x01, 0x00, 0x00, 0x40, 0x07, 0x00, 0x00, 0x00] = .panic .readOOB := by
  rfl

/-- … which the reference rejects with a length error -/
theorem wide_count_reference_rejects :
    Pdlv.decBody { e := .little, mode := .ideal } (.root "S" (.cons (.chunk [.count "a" 32])
        (.cons (.array "a" (.scalar 32) (.static 4) .countField none) .nil)))
      [0x01, 0x00, 0x00, 0x40, 0x07, 0x00, 0x00, 0x00] = .err .length := by
  rfl

/-- **KF-C14-padded-array-overrun**: `struct S { _count_(a): 8, a: 16[], _padding_[4], t: 8 }` — a count
    whose elements exceed the padded size is accepted, the array is not bounded by its padding -/
theorem padded_array_not_bounded :
    (Cxx.decBody { e := .little } (.root "S" (.cons (.chunk [.count "a" 8])
        (.cons (.array "a" (.scalar 16) (.static 2) .countField (some 4)) (.cons (.chunk [.scalar "t" 8]) .nil))))
      [3, 1, 0, 2, 0, 3, 0, 9]).isOk = true ∧
    (Pdlv.decBody { e := .little, mode := .ideal } (.root "S" (.cons (.chunk [.count "a" 8])
        (.cons (.array "a" (.scalar 16) (.static 2) .countField (some 4)) (.cons (.chunk [.scalar "t" 8]) .nil))))
      [3, 1, 0, 2, 0, 3, 0, 9]).isOk = false := by
  refine ⟨by decide +kernel, by decide +kernel⟩

/-- **KF-C14-modifier-underflow**: `packet P { _size_(a): 8, a: 8[+2] }` — a size octet below the modifier makes
    `a_size_ = a_size_ - 2` wrap in `uint8_t` (1 - 2 = 255): 255 octets that follow are accepted as the array, where the
    reference rejects a size smaller than its modifier -/
theorem size_modifier_underflow_accepts :
    let items : Items := .cons (.chunk [.size "a" 8 2]) (.cons (.array "a" (.scalar 8) (.static 1) .sizeField none) .nil)
    (viewDecode { e := .little } (.root "P" items) (1 :: List.replicate 255 7)).isOk = true ∧
    (Pdlv.decodeFull { e := .little, mode := .ideal } (.root "P" items) (1 :: List.replicate 255 7)).isOk = false := by
  refine ⟨by decide +kernel, by decide +kernel⟩

/-- … and `struct S { a: 8[2], _padding_[4], t: 8 }` (a statically counted array of scalars that fits its padding) is
    in the class of the struct parser theorem -/
example :
    let items : Items := .cons (.array "a" (.scalar 8) (.static 1) (.static 2) (some 4)) (.cons (.chunk [.scalar "t" 8]) .nil)
    wfBody (.root "S" items) = true ∧ vwfBody (.root "S" items) = true ∧
    Cxx.decBody { e := .little } (.root "S" items) [1, 2, 0, 0, 9] =
      .ok (.obj [("a", .arr [.int 1, .int 2]), ("t", .int 9)], []) := by
  refine ⟨by decide +kernel, by decide +kernel, by rfl⟩

/-! non-vacuity: `struct S { _count_(a): 8, t: 8, a: 16[], c: 1, _reserved_: 7, o: 8 if c = 1 }` is in the class -/
example :
    let items : Items := .cons (.chunk [.count "a" 8, .scalar "t" 8])
      (.cons (.array "a" (.scalar 16) (.static 2) .countField none)
      (.cons (.chunk [.flag "c" [("o", 1)], .reserved 7]) (.cons (.optional "o" (.scalar 8) "c" 1) .nil)))
    wfBody (.root "S" items) = true ∧ decWfBody (.root "S" items) = true ∧
    (Cxx.decBody { e := .little } (.root "S" items) [1, 7, 0x34, 0x12, 1, 9]).isOk = true := by
  refine ⟨by decide +kernel, by decide +kernel, by decide +kernel⟩

/-! … and `packet P { _count_(a): 8, t: 8, a: 16[], _size_(_payload_): 8, _payload_ }` is in the class of views -/
example :
    let items : Items := .cons (.chunk [.count "a" 8, .scalar "t" 8])
      (.cons (.array "a" (.scalar 16) (.static 2) .countField none)
      (.cons (.chunk [.size "_payload_" 8 0]) (.cons (.payload (.sized 0)) .nil)))
    vwfBody (.root "P" items) = true ∧ decWfBody (.root "P" items) = true ∧
    (viewDecode { e := .little } (.root "P" items) [1, 7, 0x34, 0x12, 1, 0xaa]).isOk = true := by
  refine ⟨by decide +kernel, by decide +kernel, by decide +kernel⟩

/-- **C14, child views: everything the reference accepts is a valid view.**  For every child packet whose own fields and
    whose ancestors' fields are in the class of the view theorem, no field called `payload`, every ancestor with a payload
    (`Cxx.vwfChain`: decidable, evaluated per run), both byte orders and EVERY byte string: if the reference `decode_full` of the
    child accepts the octets, then `RootView::Create(slice)` and the chain of `ChildView::Create(parent)` down to the child are
    all valid and the child's getters return the reference's field values. -/
theorem child_view_accepts_what_the_reference_accepts (c : Cfg) (nm : String) (parent : Body) (cs allCs : List (String × Nat))
    (items : Items) (hw : vwfChain (.derived nm parent cs allCs items) = true) (bs : Bytes) (hb : bs.length < usizeMax) (v : Value)
    (h : Pdlv.decodeFull { e := c.e, mode := .ideal } (.derived nm parent cs allCs items) bs = .ok v) :
    viewDecode c (.derived nm parent cs allCs items) bs = .ok v := by
  simp only [viewDecode, (chain_ok c _ hw bs hb).1 v [] (decodeFull_ok_iff.mp h) rfl, Outcome.ok_bind]

/-- **… and a valid child view is what the reference accepts, or an input whose only fault is a constraint.**  On the same
    class: if the chain of views is valid with field values `v`, the reference either accepts the octets with exactly `v`, or
    rejects them with `ConstraintValue` — the emitted `Parse` of a child view checks no constraint (KF-C14-child-constraint),
    and that is the ONLY way in which it accepts more than the reference. -/
theorem child_view_is_reference_or_constraint (c : Cfg) (nm : String) (parent : Body) (cs allCs : List (String × Nat))
    (items : Items) (hw : vwfChain (.derived nm parent cs allCs items) = true) (bs : Bytes) (hb : bs.length < usizeMax) (v : Value)
    (h : viewDecode c (.derived nm parent cs allCs items) bs = .ok v) :
    Pdlv.decodeFull { e := c.e, mode := .ideal } (.derived nm parent cs allCs items) bs = .ok v ∨
    Pdlv.decodeFull { e := c.e, mode := .ideal } (.derived nm parent cs allCs items) bs = .err .constraintValue := by
  have hc := chain_ok c _ hw bs hb
  simp only [viewDecode] at h
  obtain ⟨⟨v', hz⟩, hvb, h2⟩ := Outcome.bind_ok_iff.mp h
  obtain ⟨rfl, href⟩ := hc.2.1 v' hz hvb
  simp only [Outcome.ok.injEq] at h2
  subst h2
  simp only [Py.ideal] at href
  rcases href with ⟨r, hr, hd⟩ | hcv
  · rw [List.isEmpty_iff.mp hr] at hd
    exact Or.inl (decodeFull_ok_iff.mpr hd)
  · exact Or.inr (by simp only [Pdlv.decodeFull, hcv, Outcome.err_bind])

/-- **C14, child views: no undefined behaviour.**  On the same class, with the hypotheses of C01 on every level
    (`decWfBody`), constructing the chain of views over ANY byte string and calling the child's getters reaches no slice
    accessor called beyond its slice, no remainder by zero and no endless loop — also on inputs whose constraints do not
    hold, which the emitted child views go on to parse. -/
theorem child_view_no_undefined_behaviour (c : Cfg) (nm : String) (parent : Body) (cs allCs : List (String × Nat))
    (items : Items) (hw : vwfChain (.derived nm parent cs allCs items) = true)
    (hd : decWfBody (.derived nm parent cs allCs items) = true) (bs : Bytes) (hb : bs.length < usizeMax) (h : Hazard) :
    viewDecode c (.derived nm parent cs allCs items) bs ≠ .panic h := by
  intro hp
  simp only [viewDecode] at hp
  cases hv : viewBody c (.derived nm parent cs allCs items) bs with
  | panic h0 => exact chain_no_panic c _ hw hd bs hb h0 hv
  | err e => simp [hv] at hp
  | ok a =>
    obtain ⟨v, hz⟩ := a
    obtain ⟨rfl, _⟩ := (chain_ok c _ hw bs hb).2.1 v hz hv
    simp [hv] at hp

/-- **KF-C14-child-constraint**, derived from the model: `packet R { k: 8, _payload_ }`, `packet C : R (k = 3) { x: 8 }` —
    over `04 07` the chain of views is valid (`GetX()` = 7, `GetK()` would return the constant 3) although `k = 4`; the
    reference rejects the octets with `ConstraintValue` -/
theorem child_view_does_not_check_constraints :
    let root : Body := .root "R" (.cons (.chunk [.scalar "k" 8]) (.cons (.payload .last) .nil))
    let ch : Body := .derived "C" root [("k", 3)] [("k", 3)] (.cons (.chunk [.scalar "x" 8]) .nil)
    vwfChain ch = true ∧
    viewDecode { e := .little } ch [4, 7] = .ok (.obj [("x", .int 7)]) ∧
    Pdlv.decodeFull { e := .little, mode := .ideal } ch [4, 7] = .err .constraintValue ∧
    viewDecode { e := .little } ch [3, 7] = .ok (.obj [("x", .int 7)]) ∧
    Pdlv.decodeFull { e := .little, mode := .ideal } ch [3, 7] = .ok (.obj [("x", .int 7)]) := by
  refine ⟨by decide +kernel, by rfl, by rfl, by rfl, by rfl⟩

end Cxx
end Pdlv
