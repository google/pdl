/-
  C12 — parser fidelity: the AST is what was written, with truthful source ranges.

  The grammar and tree-to-AST conversion are modelled in `Pdlv.Syntax` (a PEG interpreter with
  pest's semantics over the transcribed grammar) and compared with the real parser on every
  run; the grammar itself is re-translated from parser.rs on every run and compared with the
  transcription.  The theorems here are about the two pure functions every source range and every
  integer value goes through (`SourceLocation::new`, `as_usize`) and about the interpreter, for every
  grammar and every input: every node's range lies within the file, is ordered, and nests.
-/
import Pdlv.Syntax
import Pdlv.Lemmas.Peg

namespace Pdlv
namespace Syntax

/-- on strictly increasing starts the scan either meets only starts beyond `off` (and returns `acc`), or stops at the
    last start `≤ off` -/
theorem srcLocNew_go_spec (off : Nat) : ∀ (rest : List Nat) (k : Nat) (acc : SrcLoc),
    rest.Pairwise (· < ·) →
    (srcLocNew.go off k acc rest = acc ∧ ∀ s ∈ rest, off < s) ∨
    (∃ i s, rest[i]? = some s ∧ s ≤ off ∧
        srcLocNew.go off k acc rest = { offset := off, line := k + i, column := off - s } ∧
        ∀ j s', i < j → rest[j]? = some s' → off < s') := by
  intro rest
  induction rest with
  | nil => intro k acc _; left; simp [srcLocNew.go]
  | cons s rest ih =>
    intro k acc hs
    obtain ⟨hall, hs'⟩ := List.pairwise_cons.mp hs
    simp only [srcLocNew.go]
    by_cases hgt : s > off
    · left
      refine ⟨by simp [hgt], fun x hx => ?_⟩
      rcases List.mem_cons.mp hx with rfl | hx
      · exact hgt
      · exact Nat.lt_trans hgt (hall x hx)
    · simp only [hgt, ↓reduceIte]
      right
      rcases ih (k + 1) { offset := off, line := k, column := off - s } hs' with
        ⟨heq, hlater⟩ | ⟨i, s2, hi, hle, heq, hlater⟩
      · refine ⟨0, s, by simp, Nat.not_lt.mp hgt, by simp [heq], fun j s' hj hget => ?_⟩
        cases j with
        | zero => exact absurd hj (Nat.lt_irrefl 0)
        | succ j => exact hlater s' (List.mem_of_getElem? (List.getElem?_cons_succ ▸ hget))
      · refine ⟨i + 1, s2, List.getElem?_cons_succ.trans hi, hle, by rw [heq, Nat.add_right_comm, Nat.add_assoc],
          fun j s' hj hget => ?_⟩
        cases j with
        | zero => exact absurd hj (Nat.not_lt_zero _)
        | succ j => exact hlater j s' (Nat.lt_of_succ_lt_succ hj) (List.getElem?_cons_succ ▸ hget)

/-- **line/column are consistent with the byte offset**: for strictly increasing line starts
    beginning with 0, `SourceLocation::new(off, line_starts)` returns the unique line whose start
    is ≤ off with every later line starting after off, `column = off − start of that line`, and
    the offset itself unchanged. -/
theorem srcloc_correct (off : Nat) (ls : List Nat) (hs : ls.Pairwise (· < ·)) (h0 : ls.head? = some 0) :
    ∃ s, ls[(srcLocNew off ls).line]? = some s ∧ s ≤ off ∧
      (srcLocNew off ls).column = off - s ∧ (srcLocNew off ls).offset = off ∧
      ∀ j s', (srcLocNew off ls).line < j → ls[j]? = some s' → off < s' := by
  unfold srcLocNew
  rcases srcLocNew_go_spec off ls 0 { offset := off, line := 0, column := off } hs with ⟨_, hall⟩ | ⟨i, s, hi, hle, heq, hl⟩
  · exact absurd (hall 0 (List.mem_of_head? h0)) (Nat.not_lt_zero _)
  · rw [heq]
    exact ⟨s, by simpa using hi, hle, rfl, rfl, by simpa using hl⟩

/-- with no line starts at all the location degrades to line 0, column = offset (the case the
    repository's own unit test pins) -/
theorem srcloc_empty (off : Nat) : srcLocNew off [] = { offset := off, line := 0, column := off } := rfl

/-- decimal and `0x` literals are evaluated by the same Horner scheme, digit by digit -/
theorem fromStrRadix_snoc (radix : Nat) (ds : List Char) (d : Char) (n k : Nat)
    (hds : ds ≠ []) (h : fromStrRadix radix ds = some n) (hd : digitVal d = some k)
    (hk : k < radix) (hfit : n * radix + k < 2 ^ 64) :
    fromStrRadix radix (ds ++ [d]) = some (n * radix + k) := by
  unfold fromStrRadix at *
  have hne : (ds ++ [d]).isEmpty = false := by simp
  have hne2 : ds.isEmpty = false := by simpa using hds
  simp only [hne, hne2, Bool.false_eq_true, ↓reduceIte, List.foldl_append, List.foldl_cons, List.foldl_nil] at *
  rw [h]
  simp [hd, hk, hfit]

theorem asUsize_hex (hs : List Char) : asUsize (String.ofList ('0' :: 'x' :: hs)) = fromStrRadix 16 hs := by
  simp [asUsize]

theorem asUsize_hex_upper (hs : List Char) : asUsize (String.ofList ('0' :: 'X' :: hs)) = fromStrRadix 16 hs := by
  simp [asUsize]

/-- **radix independence**: `0x` and `0X` literals with the same digits have the same value -/
theorem int_radix_prefix_case (hs : List Char) :
    asUsize (String.ofList ('0' :: 'x' :: hs)) = asUsize (String.ofList ('0' :: 'X' :: hs)) := by
  rw [asUsize_hex, asUsize_hex_upper]

/-- all spellings of the same number have the same value -/
example : asUsize "0x1f" = some 31 ∧ asUsize "31" = some 31 ∧ asUsize "0x1F" = some 31 ∧ asUsize "0x001f" = some 31 ∧
          asUsize "0X1f" = some 31 ∧ asUsize "0031" = some 31 := by
  decide +kernel

/-- the largest 64-bit value is accepted, the next one is not (no silent wrap-around) -/
example : asUsize "18446744073709551615" = some (2 ^ 64 - 1) ∧ asUsize "18446744073709551616" = none ∧
          asUsize "0xffffffffffffffff" = some (2 ^ 64 - 1) ∧ asUsize "0x10000000000000000" = none := by
  -- a test vector, evaluated by the kernel alone (`rfl` would evaluate it in the elaborator first)
  decide +kernel


open Peg in
/-- **Every node's source range lies within the file, is ordered, and nests** — for every grammar, every start
    rule and every input, whatever tree the PEG interpreter returns: top-level nodes are consecutive
    (`chain`: each starts at or after the end of the previous one) between offset 0 and the length of the
    input; every node has `start ≤ stop`, and its children are consecutive within `[start, stop]`,
    recursively (`Pair.within`). -/
theorem parse_ranges (g : Grammar) (start : String) (input : Array UInt8) (ps : List Pair)
    (h : Peg.parse g start input = some ps) : chain ps 0 input.size = true := by
  simp only [Peg.parse, Option.map_eq_some_iff] at h
  obtain ⟨st', hr, rfl⟩ := h
  have := run_ok g input defaultFuel _ _ _ _ st' 0 hr (by simp) (by simp [chain])
  exact chain_mono st'.pairs 0 st'.pos 0 input.size this.2.2 (Nat.le_refl _) this.2.1

open Peg in
/-- what `chain` says, spelled out (`Peg.within_spec` does it for `within`): every member lies in `[lo, hi]`, and
    siblings do not overlap -/
theorem chain_spec : ∀ (ps : List Pair) (lo hi : Nat), chain ps lo hi = true →
    (∀ p ∈ ps, p.within lo hi = true) ∧ ps.Pairwise (fun a b => a.stop ≤ b.start) := by
  intro ps
  induction ps with
  | nil => intro _ _ _; exact ⟨by simp, List.Pairwise.nil⟩
  | cons p ps ih =>
    intro lo hi h
    simp only [chain, Bool.and_eq_true] at h
    obtain ⟨ih1, ih2⟩ := ih p.stop hi h.2
    obtain ⟨hp1, hp2, -, -⟩ := within_spec p lo hi h.1
    refine ⟨?_, List.Pairwise.cons ?_ ih2⟩
    · intro q hq
      rcases List.mem_cons.mp hq with rfl | hq
      · exact h.1
      · exact within_mono q p.stop hi lo hi (ih1 q hq) (Nat.le_trans hp1 hp2) (Nat.le_refl _)
    · intro q hq
      exact (within_spec q p.stop hi (ih1 q hq)).1

/-- the theorem applies to the transcribed PDL grammar: a successful parse of any text has one root node
    spanning a range inside the text -/
theorem pdl_root_range (input : Array UInt8) (root : Peg.Pair)
    (h : Peg.parse grammar "file" input = some [root]) : root.start ≤ root.stop ∧ root.stop ≤ input.size := by
  have := parse_ranges grammar "file" input [root] h
  simp only [Peg.chain, Bool.and_eq_true] at this
  have := Peg.within_spec root 0 input.size this.1
  exact ⟨this.2.1, this.2.2.1⟩

end Syntax
end Pdlv
