/-
  C14 — C++ back end: the reference it is compared with.

  The emitted code is compared by differential execution with the reference (`Pdlv.Ref` for bytes, the
  ideal-mode decoder for parsing) and with its model `Pdlv.Cxx` (theorems: Thm/C14_cxx).  The statements
  below are the properties of the reference that comparison relies on.
-/
import Pdlv.Lemmas.RefBits
import Pdlv.Thm.C04
import Pdlv.Thm.C01

namespace Pdlv
namespace C14Ref

theorem ref_chunk_total (e : Endian) (fs : List BitField) (bs : Bytes) (st : DState) :
    (decChunk e true fs bs st).isPanic = false :=
  decChunk_no_panic e true fs bs st

theorem ref_truncated_group (e : Endian) (fs : List BitField) (bs : Bytes) (st : DState)
    (h : bs.length < chunkBits fs / 8) : decChunk e true fs bs st = .err .length :=
  truncated_chunk_is_length_error e true fs bs st h

theorem ref_scalar (e : Endian) (k x : Nat) (h : Ref.fits (8 * k) x = true) :
    Ref.encTy e (.scalar (8 * k)) (.int x) = some (putUint e (8 * k) x) :=
  Ref.encTy_scalar_eq_putUint e k x h

theorem ref_group_length (bits : List Bool) :
    (Ref.groupBytes .little bits).length = (Ref.groupBytes .big bits).length := by
  rw [Ref.groupBytes_length, Ref.groupBytes_length]

end C14Ref
end Pdlv
