/-
  C11 — compilation is a deterministic pure function of the source.

  The real compiler keeps several intermediates in `HashMap`s whose iteration order changes from
  process to process (Scope::typedef, the constraint maps of `generate_specialize_impl`, the
  condition map of `desugar_flags`).  The emitted text is deterministic because every such map is
  either only *looked up*, or re-ordered through a `BTreeSet` / `BTreeMap` before emission, or
  filled and read in declaration / field order.  The theorems state exactly that about the model:

  * `sortDedup_congr` — the identifier list the `specialize()` match is built from depends only on
    the SET of identifiers gathered, not on the order (or multiplicity) in which they were met;
  * `lookup_insertC`, `insertC_comm`, `tupleOf_congr` — a constraint map is determined by its
    look-ups; inserting two different keys in either order gives the same map, hence the same
    match tuple.

  Byte identity of whole outputs across processes is observed by the check (k fresh processes per
  description and back end), not proved.
-/
import Pdlv.Inherit
import Pdlv.Lemmas.List

namespace Pdlv
namespace Inherit

/-! ### sorted, duplicate-free identifier lists are canonical -/

theorem mem_insertStr (a x : String) (l : List String) : x ∈ insertStr a l ↔ x = a ∨ x ∈ l := by
  induction l with
  | nil => simp [insertStr]
  | cons b l ih =>
    unfold insertStr
    split
    · simp
    · split
      · rename_i h
        have hab : a = b := by simpa using h
        subst hab
        simp
      · simp only [List.mem_cons, ih, or_left_comm]

theorem mem_foldl_insertStr (x : String) (l acc : List String) :
    x ∈ l.foldl (fun acc a => insertStr a acc) acc ↔ x ∈ acc ∨ x ∈ l := by
  induction l generalizing acc with
  | nil => simp
  | cons a l ih =>
    simp only [List.foldl_cons, ih, mem_insertStr, List.mem_cons, or_assoc, or_left_comm]

theorem mem_sortDedup (x : String) (l : List String) : x ∈ sortDedup l ↔ x ∈ l := by
  unfold sortDedup
  simp [mem_foldl_insertStr]

def Sorted (l : List String) : Prop := l.Pairwise (· < ·)

theorem insertStr_sorted (a : String) (l : List String) (h : Sorted l) : Sorted (insertStr a l) := by
  induction l with
  | nil => simp [insertStr, Sorted]
  | cons b l ih =>
    unfold Sorted at h ih ⊢
    rw [List.pairwise_cons] at h
    unfold insertStr
    split
    · rename_i hab
      rw [List.pairwise_cons]
      refine ⟨?_, List.pairwise_cons.mpr h⟩
      intro y hy
      rcases List.mem_cons.mp hy with rfl | hy
      · exact hab
      · exact String.lt_trans hab (h.1 y hy)
    · split
      · exact List.pairwise_cons.mpr h
      · rename_i hab hne
        have hne' : a ≠ b := by simpa using hne
        have hba : b < a := Std.lt_of_le_of_ne (String.not_lt.mp hab) (Ne.symm hne')
        rw [List.pairwise_cons]
        refine ⟨?_, ih h.2⟩
        intro y hy
        rcases (mem_insertStr a y l).mp hy with rfl | hy
        · exact hba
        · exact h.1 y hy

theorem sortDedup_sorted (l : List String) : Sorted (sortDedup l) :=
  List.foldlRecOn l _ (List.Pairwise.nil : Sorted []) fun acc hacc a _ => insertStr_sorted a acc hacc

/-- two strictly sorted lists with the same members are equal: they have no duplicates, so they are permutations
    of each other, and a sorted permutation is unique -/
theorem sorted_ext (l1 l2 : List String) (h1 : Sorted l1) (h2 : Sorted l2)
    (h : ∀ x, x ∈ l1 ↔ x ∈ l2) : l1 = l2 :=
  have nd {l : List String} (hs : Sorted l) : l.Nodup :=
    List.Pairwise.imp (S := (· ≠ ·)) (fun hab e => String.lt_irrefl _ (e ▸ hab)) hs
  ((List.perm_ext_iff_of_nodup (nd h1) (nd h2)).mpr h).eq_of_pairwise
    (fun _ _ _ _ hab hba => absurd hba (String.lt_asymm hab)) h1 h2

/-- **order independence of the identifier list**: however the constraint identifiers (or child
    identifiers) were gathered — any order, any repetition, as a `HashMap` iteration may produce —
    the sorted list the match is emitted from is the same. -/
theorem sortDedup_congr (l1 l2 : List String) (h : ∀ x, x ∈ l1 ↔ x ∈ l2) : sortDedup l1 = sortDedup l2 :=
  sorted_ext _ _ (sortDedup_sorted l1) (sortDedup_sorted l2) (by
    intro x; rw [mem_sortDedup, mem_sortDedup]; exact h x)

theorem sortDedup_perm (l1 l2 : List String) (h : l1.Perm l2) : sortDedup l1 = sortDedup l2 :=
  sortDedup_congr l1 l2 (fun _ => h.mem_iff)

/-! ### constraint maps are determined by their look-ups -/

/-- `HashMap::insert` as modelled: the new binding wins, every other key is unaffected -/
theorem lookup_insertC (cs : List (String × Nat)) (k k' : String) (v : Nat) :
    List.lookup k' (insertC cs k v) = if k' == k then some v else List.lookup k' cs := by
  unfold insertC
  by_cases hk : k' = k
  · subst hk; simp [List.lookup]
  · have h2 : (k' == k) = false := by simpa using hk
    simp [List.lookup, h2, List.lookup_filter_key (fun x => x.1 != k) (· != k) fun _ _ => rfl, hk]

/-- inserting two different keys in either order gives maps with the same look-ups -/
theorem insertC_comm (cs : List (String × Nat)) (k1 k2 : String) (v1 v2 : Nat) (h : k1 ≠ k2) (k : String) :
    List.lookup k (insertC (insertC cs k1 v1) k2 v2) = List.lookup k (insertC (insertC cs k2 v2) k1 v1) := by
  simp only [lookup_insertC]
  by_cases a : k = k1
  · subst a
    have : (k == k2) = false := by simpa using h
    simp [this]
  · have : (k == k1) = false := by simpa using a
    simp [this]

/-- the tuple a case contributes to the match depends only on the look-ups of its constraint map -/
theorem tupleOf_congr (ids : List String) (c c' : SpecCase)
    (h : ∀ k, List.lookup k c.constraints = List.lookup k c'.constraints) : tupleOf ids c = tupleOf ids c' := by
  unfold tupleOf
  exact List.map_congr_left (fun k _ => h k)

example : sortDedup ["b", "a", "b", "c"] = sortDedup ["c", "b", "a"] :=
  sortDedup_congr _ _ (by intro x; simp only [List.mem_cons, List.mem_nil_iff, or_comm, or_left_comm, or_self_left])

end Inherit
end Pdlv
