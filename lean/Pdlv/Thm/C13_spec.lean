/-
  C13 — the specialization the Python back end emits (model: `Pdlv.PySpec`, tied to python.rs by differential
  execution on every input of the run) against the reference's `decode_partial`.
-/
import Pdlv.Lemmas.PySpecAgree
import Pdlv.Lemmas.PySerChild
import Pdlv.Thm.C13

namespace Pdlv
namespace PySpec

open Py (ideal)

/-- **C13, specialization: whatever is returned is right.**  For every root packet with a tree of children whose
    own fields are in the class of the parser theorem (`Py.wfItems`, no skipped alias — decidable, evaluated per
    run), both byte orders and EVERY byte string: if `Root.parse_all(b)` returns an object of packet `T` with
    field values `v`, then the reference `decode_full` accepts `b` as the root, and `T` is either the root itself
    with the reference's values or is reached from one of the children the parser tries by one reference
    `decode_partial` per level — constraints checked, the child's fields parsed from the parent's payload with
    nothing left over — with exactly the values `v`.  The `try … except Exception: pass` chain never makes the
    emitted parser return a child the reference would not. -/
theorem python_specialization_is_sound (c : Cfg) (nm : String) (items : Items) (ks : List Node)
    (hw : wfNode (.mk (.root nm items) [] ks) = true) (bs : Bytes) (T : String) (v : Value)
    (h : parseAll c (.mk (.root nm items) [] ks) bs = .ok (T, v)) :
    ∃ v0, Pdlv.decodeFull (ideal c) (.root nm items) bs = .ok v0 ∧
      ((T = nm ∧ v = v0) ∨ ∃ k, k ∈ ks ∧ Reaches c k v0 T v) := by
  simp only [wfNode, Bool.and_eq_true] at hw
  simp only [parseAll] at h
  obtain ⟨v0, h0, h1⟩ := Outcome.bind_ok_iff.mp h
  have hr := (Py.python_parser_agrees_with_reference c nm items (by simpa [Py.wfBody] using hw.1.2) bs v0).mp h0
  refine ⟨v0, hr, ?_⟩
  cases hk : kids c ks v0 with
  | none =>
    simp only [hk, Outcome.ok.injEq, Prod.mk.injEq] at h1
    exact Or.inl ⟨h1.1.symm, h1.2.symm⟩
  | some r =>
    simp only [hk, Outcome.ok.injEq] at h1
    subst h1
    exact Or.inr (kids_sound c ks (fun k _ => child_sound c k) hw.2 v0 T v hk)

/-- **… and the packet itself is returned only when no child fits.**  If none of the children the parser tries
    yields an object (so that the parent is returned), the reference's `decode_partial` accepts none of them
    either: a child is never lost to a swallowed exception. -/
theorem python_keeps_the_parent_only_if_no_child_fits (c : Cfg) (ks : List Node) (pv : Value)
    (h : kids c ks pv = none) (nm : String) (parent : Body) (cs allCs : List (String × Nat)) (items : Items)
    (ks' : List Node) (hm : Node.mk (.derived nm parent cs allCs items) [] ks' ∈ ks)
    (hwi : Py.wfItems items = true) (v : Value) :
    refChild c (.derived nm parent cs allCs items) pv ≠ .ok v :=
  child_not_ok c nm parent cs allCs items ks' hwi pv (kids_none c ks pv h _ hm) v

/-! non-vacuity: `packet R { k: 8, _payload_ }`, `packet A : R (k = 1) { x: 8 }`, `packet B : R (k = 2) { y: 16 }`;
    `02 34 12` is returned as a `B` with `y = 0x1234` -/
example :
    let root : Body := .root "R" (.cons (.chunk [.scalar "k" 8]) (.cons (.payload .last) .nil))
    let a : Node := .mk (.derived "A" root [("k", 1)] [("k", 1)] (.cons (.chunk [.scalar "x" 8]) .nil)) [] []
    let b : Node := .mk (.derived "B" root [("k", 2)] [("k", 2)] (.cons (.chunk [.scalar "y" 16]) .nil)) [] []
    wfNode (.mk root [] [a, b]) = true ∧
    parseAll { e := .little } (.mk root [] [a, b]) [2, 0x34, 0x12] = .ok ("B", .obj [("y", .int 0x1234)]) := by
  refine ⟨by decide +kernel, by rfl⟩

end PySpec

namespace Py

/-- **C13, serializer of child packets.**  For every child packet whose own fields and whose ancestors' fields are in
    the serializer class, with one payload per ancestor and static annotations that agree with the types
    (`Py.serWfChild`: decidable, evaluated per run), both byte orders, and every value the reference-mode encoder
    assigns an encoding to: the model of the emitted `serialize()` — own fields into a buffer, then each ancestor's
    `serialize(self, payload=…)` around it, every size field computed from the octets actually written, constrained
    fields taken from the constants the child stores — writes exactly the reference's bytes (which, by C05, have the
    length `encoded_len` promises, so "size from the bytes" and "size from the lengths" agree). -/
theorem python_child_serializer_writes_reference (c : Cfg) (nm : String) (parent : Body) (cs allCs : List (String × Nat))
    (items : Items) (hw : serWfChild (.derived nm parent cs allCs items) = true) (v : Value) (bs : Bytes)
    (he : Pdlv.encBody { e := c.e, mode := .ideal } (.derived nm parent cs allCs items) v = .ok bs) :
    Py.encBody c (.derived nm parent cs allCs items) v = .ok bs := by
  simp only [serWfChild, Bool.and_eq_true] at hw
  obtain ⟨p, ib, hp, hib, he'⟩ := encBody_derived_ok _ nm parent cs allCs items v bs hw.2 he
  have hl := hw.2
  simp only [lenWfBody, Bool.and_eq_true] at hl
  simp only [Py.encBody, hp]
  show (Py.encItems c items p (withConstants allCs v) items).bind _ = _
  rw [items_ideal_to_py c items p _ items ib hw.1.1 hib]
  exact around_ideal_to_py c parent (withConstants allCs v) ib bs hw.1.2 hl.1.2 he'

/-! non-vacuity: `packet R { k: 8, _size_(_payload_): 8, _payload_ }`, `packet C : R (k = 2) { y: 16 }` -/
example :
    let root : Body := .root "R" (.cons (.chunk [.scalar "k" 8, .size "_payload_" 8 0]) (.cons (.payload (.sized 0)) .nil))
    let ch : Body := .derived "C" root [("k", 2)] [("k", 2)] (.cons (.chunk [.scalar "y" 16]) .nil)
    serWfChild ch = true ∧ Py.encBody { e := .little } ch (.obj [("y", .int 0x1234)]) = .ok [2, 2, 0x34, 0x12] := by
  refine ⟨by decide +kernel, by rfl⟩

end Py
end Pdlv
