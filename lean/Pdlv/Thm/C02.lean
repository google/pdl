/-
  C02 — Rust encode then decode is the identity on every well-formed value.

  The decoder model is run in lock step with what the reference-mode encoder wrote: item by item, types and field
  lists in one induction over the layout; an inheriting packet is decoded through every ancestor, outermost first.
  All of it in the decidable round-trippable class `rtWfFull`, which the check evaluates per run.
-/
import Pdlv.Lemmas.RoundTrip
import Pdlv.Thm.C03
import Pdlv.Thm.C05
import Pdlv.Lemmas.Inh
import Pdlv.Lemmas.Layout
import Pdlv.Thm.C01

namespace Pdlv

/-- **bit-field groups round-trip for every list of widths**: extracting
    `(chunk >> shift) & mask(w)` at running shifts from the packed group returns every field -/
theorem chunk_fields_roundtrip (fs : List (Nat × Nat)) (h : InRange fs) :
    unpack (fs.map (·.1)) (pack fs) = fs.map (·.2) := unpack_pack fs h

/-- scalar array elements / optional scalars / sized custom fields: one element round-trips,
    leaving the rest of the input untouched (the strong form needed inside arrays) -/
theorem scalar_elem_roundtrip (c : Cfg) (k v : Nat) (rest : Bytes) (hv : v < 2 ^ (8 * k))
    (hb : v < 2 ^ backingOf (8 * k)) :
    ∃ bs, encTy c (.scalar (8 * k)) (.int v) = .ok bs ∧
      decTy c (.scalar (8 * k)) (bs ++ rest) = .ok (.int v, rest) := by
  refine ⟨putUint c.e (8 * k) v, encTy_scalar_ok_iff.mpr ⟨v, rfl, hb, ?_, rfl⟩,
    decTy_scalar_ok_iff.mpr ⟨v, getUint_putUint c.e k v rest hv, rfl⟩⟩
  cases c.mode with
  | rust => rfl
  | ideal => exact elemOutOfRange_ideal_iff.mpr ((le_maskBits_iff _ v).mpr hv)

/-- a run of scalar elements round-trips: `for elem in &self.x { put(elem) }` then
    `for _ in 0..n { get() }` -/
theorem scalar_array_roundtrip (c : Cfg) (k : Nat) (hk : 8 * k ≤ 64) :
    ∀ (vs : List Nat) (rest : Bytes),
      (∀ v ∈ vs, v < 2 ^ (8 * k) ∧ v < 2 ^ backingOf (8 * k)) →
      ∃ bs, encListWith (encTy c (.scalar (8 * k))) (vs.map Value.int) = .ok bs ∧
        decRepeat (decTy c (.scalar (8 * k))) vs.length (bs ++ rest) = .ok (vs.map Value.int, rest) := by
  intro vs
  induction vs with
  | nil => intro rest _; exact ⟨[], by simp [encListWith], by simp [decRepeat]⟩
  | cons v vs ih =>
    intro rest hall
    have hv := hall v (by simp)
    obtain ⟨b, hb1, hb2⟩ := ih rest (fun x hx => hall x (by simp [hx]))
    obtain ⟨a', ha1', ha2'⟩ := scalar_elem_roundtrip c k v (b ++ rest) hv.1 hv.2
    refine ⟨a' ++ b, encListWith_cons_ok_iff.mpr ⟨a', b, ha1', hb1, rfl⟩, ?_⟩
    simp only [List.length_cons, decRepeat, List.append_assoc, ha2', hb2, Outcome.ok_bind, List.map_cons]

def roundtrip_statement (c : Cfg) (b : Body) (v : Value) : Prop :=
  ∀ bs, encBody c b v = .ok bs → decodeFull c b bs = .ok v

/-- non-vacuity: a concrete packet `{ a: 3, b: 5 }` round-trips in the model (big-endian) -/
example :
    let b : Body := .root "P" (.cons (.chunk [.scalar "a" 3, .scalar "b" 5]) .nil)
    let c : Cfg := { e := .big }
    encBody c b (.obj [("a", .int 5), ("b", .int 17)]) = .ok [0x8d] ∧
    ((decodeFull c b [0x8d]).bind fun v =>
      .ok (v.get? "a" |>.bind Value.asNat?, v.get? "b" |>.bind Value.asNat?)) = .ok (some 5, some 17) := by
  constructor <;> rfl

/-- a struct with at least one mandatory octet never encodes to nothing -/
theorem struct_enc_nonempty (ce : Cfg) (nm nm' : String) (items : Items) (hmin : 0 < minEnc items)
    (hl : lenWfItems items = true) (x : Value) (b : Bytes)
    (he : encTy ce (.struct nm (.root nm' items)) x = .ok b) : b ≠ [] := by
  obtain ⟨p, _, he⟩ := (encBody_root_ok_iff (nm := nm')).mp he
  have h1 := encItems_len ce items p p.length x items b hl he
  have h2 := minEnc_le_lenItemsP x p.length items
  rintro rfl
  exact Nat.not_lt.mpr (Nat.le_trans h2 (Nat.le_of_eq h1.symm)) hmin

/-- what `rtWfItem` asks of an array's element width, in the form `array_rt` takes it -/
theorem rtWf_width (ce : Cfg) (all : Items) (id : String) (elem : Ty) (ew : ElemWidth) (shape : Shape) (pad : Option Nat)
    (hwi : rtWfItem all (.array id elem ew shape pad) = true) :
    (∀ w, ew = .static w → 0 < w ∧ ∀ x b, encTy ce elem x = .ok b → b.length = w) ∧
    (ew = .unknown → ∀ x b, encTy ce elem x = .ok b → b ≠ []) ∧ ew ≠ .dynamic := by
  simp only [rtWfItem, Bool.and_eq_true] at hwi
  obtain ⟨_, hew⟩ := hwi
  cases ew with
  | «static» w =>
    simp only [Bool.and_eq_true, decide_eq_true_eq, beq_iff_eq] at hew
    exact ⟨fun _ h => by cases h; exact ⟨hew.1, fun x b hx => encTy_static ce elem x b w hew.2 hx⟩, nofun, nofun⟩
  | dynamic => cases hew
  | unknown =>
    refine ⟨nofun, fun _ => ?_, nofun⟩
    cases elem with
    | struct nm bdy =>
      cases bdy with
      | root nm' items' =>
        simp only [Bool.and_eq_true, decide_eq_true_eq] at hew
        exact struct_enc_nonempty ce nm nm' items' hew.1 hew.2
      | derived _ _ _ _ _ => cases hew
    | _ => cases hew

/-- `a` is what the encoder wrote for the item `i`, `b` what it wrote for the items `r` that follow -/
theorem item_rt (ce cd : Cfg) (hce : ce.mode = .ideal) (hee : ce.e = cd.e) (all : Items) (p : Bytes) (v : Value)
    (hnd : (arrayIds all).Nodup) (i : Item) (r : Items) (avail : List Key) (st : DState)
    (hty : ∀ ty, i.ty? = some ty → rtWfTy ty = true → ElemRT (encTy ce ty) (decTy cd ty) (canonTy ty))
    (hwi : rtWfItem all i = true) (htail : tailOk i r = true) (hd : decWfItem avail i = true)
    (hch : CtxHas st avail) (hg : CtxGood all p.length v st)
    (hopt : ∀ t ∈ optItems (.cons i r), t ∈ optItems all) (harr : ∀ t ∈ arrayItems (.cons i r), t ∈ arrayItems all)
    (hpm : ∀ md ∈ payloadModes (.cons i r), payloadMode all = some md)
    (a b rest : Bytes) (ha : encItem ce all (.ok p) p.length v i = .ok a)
    (hbr : encItems ce all (.ok p) p.length v r = .ok b)
    (hgr : greedyItems (.cons i r) = true → rest = []) (hb' : (a ++ (b ++ rest)).length < usizeMax) :
    ∃ st1, decItem cd i (a ++ (b ++ rest)) st = .ok (st1, b ++ rest) ∧ ItemPost all p.length v i p st st1 := by
  cases i with
  | chunk fs =>
    simp only [rtWfItem, Bool.and_eq_true, beq_iff_eq, List.all_eq_true] at hwi
    exact chunk_rt ce cd hce hee all (.ok p) p.length v p fs a (b ++ rest) st hwi.1 hwi.2 ha hg
  | typedef id ty sb =>
    simp only [rtWfItem, Bool.and_eq_true] at hwi
    obtain ⟨x, hv, he⟩ := encItem_typedef_ok_iff.mp ha
    exact ⟨_, decItem_typedef_ok_iff.mpr ⟨_, hty ty rfl hwi.1 x a (b ++ rest) hb' he, rfl⟩,
      by simp only [canonItem, hv, Option.getD_some], rfl, hg⟩
  | optional id ty cid cval =>
    simp only [rtWfItem] at hwi
    simp only [decWfItem, Bool.and_eq_true] at hd
    exact optional_item_rt ce cd hce all (.ok p) p.length v p id ty cid cval
      (hty ty rfl hwi) (hopt _ (by simp [optItems])) a (b ++ rest) st hb' ha hg
      (ctxHas_contains st avail _ hch hd.1)
  | payload mode =>
    simp only [decWfItem] at hd
    have hgi : greedyItem (.payload mode) = true → rest = [] := fun h => hgr (by simp [greedyItems, h])
    refine payload_item_rt ce cd all p v mode (hpm mode (by simp [payloadModes])) a (b ++ rest) st ha hg ?_ ?_ ?_ ?_
    · rintro m rfl
      exact ctxHas_contains st avail _ hch hd
    · rintro rfl
      obtain rfl := tailOk_last htail rfl nofun
      cases hbr
      rw [hgi rfl]; rfl
    · rintro k rfl
      simp only [tailOk, Bool.and_eq_true, beq_iff_eq, Bool.not_eq_true'] at htail
      rw [hgi rfl, List.append_nil]
      exact encItems_static ce all (.ok p) p.length v r b k htail.1 hbr
    · rintro rfl
      cases htail
  | array id elem ew shape pad =>
    obtain ⟨hstat, hunk, hnotdyn⟩ := rtWf_width ce all id elem ew shape pad hwi
    simp only [rtWfItem, Bool.and_eq_true, bne_iff_ne, ne_eq] at hwi
    obtain ⟨⟨⟨hwt, hlw⟩, hidp⟩, _⟩ := hwi
    have hfa := firstArray_of_mem all id elem ew (harr _ (by simp [arrayItems])) hnd
    refine array_item_rt ce cd all (.ok p) p.length v p id elem ew shape pad (hty elem rfl hwt)
      (fun x bb hx => encTy_len ce elem x bb hlw hx) hstat hunk hnotdyn hfa hidp a (b ++ rest) st hb' ha hg
      (arrayKeysOk_of_decWf hd hch) ?_
    rintro rfl
    cases pad with
    | some q => cases htail
    | none =>
      obtain rfl := tailOk_last htail rfl nofun
      cases hbr
      exact ⟨rfl, hgr rfl⟩

/-- the statement of `items_rt` about one suffix `is` of a field list -/
def ItemsRT (ce cd : Cfg) (is : Items) : Prop :=
  ∀ (all : Items) (p : Bytes) (v : Value), (arrayIds all).Nodup →
    ∀ (avail : List Key) (bs rest : Bytes) (st : DState),
      rtWfItems all is = true → decWfItems avail is = true → CtxHas st avail → CtxGood all p.length v st →
      (∀ t ∈ optItems is, t ∈ optItems all) → (∀ t ∈ arrayItems is, t ∈ arrayItems all) →
      (∀ md ∈ payloadModes is, payloadMode all = some md) →
      encItems ce all (.ok p) p.length v is = .ok bs →
      (greedyItems is = true → rest = []) → (bs ++ rest).length < usizeMax →
      ∃ st', decItems cd is (bs ++ rest) st = .ok (st', rest) ∧ st'.fields = st.fields ++ canonItems is v ∧
        st'.payload = (if is.hasPayload then some p else st.payload)

theorem ItemsRT.whole {ce cd : Cfg} {items : Items} (hit : ItemsRT ce cd items)
    (hwi : rtWfItems items items = true) (hdi : decWfItems [] items = true) (hnd : (arrayIds items).Nodup)
    (hpm : (payloadModes items).length ≤ 1) (p : Bytes) (v : Value) (bs rest : Bytes)
    (he : encItems ce items (.ok p) p.length v items = .ok bs)
    (hgr : greedyItems items = true → rest = []) (hb : (bs ++ rest).length < usizeMax) :
    ∃ st', decItems cd items (bs ++ rest) DState.empty = .ok (st', rest) ∧ st'.fields = canonItems items v ∧
      st'.payload = (if items.hasPayload then some p else none) := by
  have hg : CtxGood items p.length v DState.empty := fun _ _ hk => nomatch hk
  obtain ⟨st', h1, h2, h3⟩ := hit items p v hnd [] bs rest DState.empty hwi hdi (CtxHas.nil _) hg (fun t ht => ht)
    (fun t ht => ht) (payloadMode_of_modes items hpm) he hgr hb
  exact ⟨st', h1, by simpa [DState.empty] using h2, by simpa [DState.empty] using h3⟩

theorem root_rt {ce cd : Cfg} (nm : String) {items : Items} (hit : ItemsRT ce cd items)
    (hwi : rtWfItems items items = true) (hdi : decWfItems [] items = true) (hnd : (arrayIds items).Nodup)
    (hpm : (payloadModes items).length ≤ 1) (v : Value) (bs rest : Bytes)
    (he : encBody ce (.root nm items) v = .ok bs)
    (hgr : greedyItems items = true → rest = []) (hb : (bs ++ rest).length < usizeMax) :
    decBody cd (.root nm items) (bs ++ rest) = .ok (canonBody (.root nm items) v, rest) := by
  obtain ⟨p, hp, he⟩ := encBody_root_ok_iff.mp he
  obtain ⟨st', h1, h2, h3⟩ := hit.whole hwi hdi hnd hpm p v bs rest he hgr hb
  refine decBody_root_ok_iff.mpr ⟨st', h1, ?_⟩
  simp only [canonBody, DState.value, h2, h3]
  cases hh : items.hasPayload with
  | true =>
    simp only [hh, ↓reduceIte] at hp ⊢
    simp only [payloadBytes, hp, Option.getD_some]
  | false => simp only [Bool.false_eq_true, ↓reduceIte]

theorem ty_items_rt (ce cd : Cfg) (hce : ce.mode = .ideal) (hee : ce.e = cd.e) :
    (∀ ty, rtWfTy ty = true → ElemRT (encTy ce ty) (decTy cd ty) (canonTy ty)) ∧ (∀ is, ItemsRT ce cd is) := by
  -- nothing is claimed about a body by itself: `R b` is the claim about the struct types with body `b`, so that
  -- the `struct` step is the identity and the `root` step proves the claim for structs; no struct has a
  -- `derived` body in the class
  have h := Layout.induction₃ (P := fun ty => rtWfTy ty = true → ElemRT (encTy ce ty) (decTy cd ty) (canonTy ty))
    (Q := ItemsRT ce cd)
    (R := fun b => ∀ n, rtWfTy (.struct n b) = true →
      ElemRT (encTy ce (.struct n b)) (decTy cd (.struct n b)) (canonTy (.struct n b)))
    ?scalar ?enumTy ?custom (fun nm b ih => ih nm) ?nil ?cons ?root (fun _ _ _ _ _ _ _ _ hw => by simp [rtWfTy] at hw)
  exact ⟨h.1, h.2.1⟩
  case scalar =>
    intro w hw x bs rest _ he
    obtain ⟨n, rfl, _, hr, rfl⟩ := encTy_scalar_ok_iff.mp he
    rw [hce] at hr
    exact decTy_scalar_ok_iff.mpr ⟨n, hee ▸ getUint_putUint_bits ce.e w n rest (by simpa [rtWfTy] using hw)
      ((le_maskBits_iff w n).mp (elemOutOfRange_ideal_iff.mp hr)), rfl⟩
  case enumTy =>
    intro nm en hw x bs rest _ he
    obtain ⟨n, rfl, hok, rfl⟩ := encTy_enumTy_ok_iff.mp he
    exact decTy_enumTy_ok_iff.mpr ⟨n, hee ▸ getUint_putUint_bits ce.e en.width n rest (by simpa [rtWfTy] using hw)
      (enumOk_lt en n hok), hok, rfl⟩
  case custom =>
    intro nm w hw x bs rest _ he
    obtain ⟨n, rfl, hlt, rfl⟩ := encTy_custom_ok_iff.mp he
    exact decTy_custom_ok_iff.mpr ⟨n, hee ▸ getUint_putUint_bits ce.e w n rest (by simpa [rtWfTy] using hw) hlt, rfl⟩
  case root =>
    intro nm items ih n hw x bs rest hb he
    simp only [rtWfTy, Bool.and_eq_true, decide_eq_true_eq, Bool.not_eq_true'] at hw
    obtain ⟨⟨⟨⟨hwi, hdi⟩, hnd⟩, hng⟩, hpm⟩ := hw
    simp only [encTy] at he
    simp only [decTy, canonTy]
    exact root_rt nm ih hwi hdi hnd hpm x bs rest he (by intro hg; rw [hng] at hg; cases hg) hb
  case nil =>
    intro all p v _ avail bs rest st _ _ _ _ _ _ _ he _ _
    simp only [encItems, Outcome.ok.injEq] at he
    subst he
    exact ⟨st, by simp [decItems], by simp [canonItems], by simp [Items.hasPayload]⟩
  case cons =>
    intro i r hty ih all p v hnd avail bs rest st hw hd hch hg hopt harr hpm he hgr hb
    simp only [rtWfItems, Bool.and_eq_true] at hw
    obtain ⟨⟨hwi, htail⟩, hwr⟩ := hw
    simp only [decWfItems, Bool.and_eq_true] at hd
    obtain ⟨a, b, ha, hbr, rfl⟩ := encItems_cons_ok_iff.mp he
    obtain ⟨st1, hdec1, hf1, hp1, hg1⟩ := item_rt ce cd hce hee all p v hnd i r avail st hty hwi htail hd.1 hch hg hopt
      harr hpm a b rest ha hbr hgr (by simpa [List.append_assoc] using hb)
    obtain ⟨st', hdec2, hf2, hp2⟩ := ih all p v hnd (availAfter avail i) b rest st1
      hwr hd.2 (decItem_ctx cd i _ st st1 _ avail hdec1 hch) hg1
      (fun t ht => hopt t (optItems_tail i r t ht))
      (fun t ht => harr t (arrayItems_tail i r t ht))
      (fun md hmd => hpm md (payloadModes_tail i r md hmd)) hbr
      (fun h => hgr (by simp [greedyItems, h])) (by simp only [List.length_append] at hb ⊢; omega)
    refine ⟨st', ?_, ?_, ?_⟩
    · rw [List.append_assoc]; exact decItems_cons_ok_iff.mpr ⟨st1, _, hdec1, hdec2⟩
    · rw [hf2, hf1]; simp [canonItems, List.append_assoc]
    · rw [hp2, hp1, hasPayload_cons]
      cases i <;> cases r.hasPayload <;> rfl

theorem ty_rt (ce cd : Cfg) (hce : ce.mode = .ideal) (hee : ce.e = cd.e) : ∀ (ty : Ty), rtWfTy ty = true →
    ElemRT (encTy ce ty) (decTy cd ty) (canonTy ty) := (ty_items_rt ce cd hce hee).1

/-- **the field list, in lock step**: decoding what the reference-mode encoder wrote for the items
    `is` (a suffix of the field list `all`), from a decoder state that knows what the earlier items
    bound, consumes exactly those octets and appends exactly the items' fields -/
theorem items_rt (ce cd : Cfg) (hce : ce.mode = .ideal) (hee : ce.e = cd.e) (all : Items) (p : Bytes) (v : Value)
    (hnd : (arrayIds all).Nodup) :
    ∀ (is : Items) (avail : List Key) (bs rest : Bytes) (st : DState),
      rtWfItems all is = true → decWfItems avail is = true → CtxHas st avail → CtxGood all p.length v st →
      (∀ t ∈ optItems is, t ∈ optItems all) → (∀ t ∈ arrayItems is, t ∈ arrayItems all) →
      (∀ md ∈ payloadModes is, payloadMode all = some md) →
      encItems ce all (.ok p) p.length v is = .ok bs →
      (greedyItems is = true → rest = []) → (bs ++ rest).length < usizeMax →
      ∃ st', decItems cd is (bs ++ rest) st = .ok (st', rest) ∧ st'.fields = st.fields ++ canonItems is v ∧
        st'.payload = (if is.hasPayload then some p else st.payload) :=
  fun is => (ty_items_rt ce cd hce hee).2 is all p v hnd

/-- **C02, packets and structs without parent.**  For every packet or struct without parent whose layout is in the
    round-trippable class (`rtWfBody`: decidable, evaluated by the check on every generated layout),
    both byte orders, the decoder in either mode (the model of the emitted decoder, or the reference
    decoder), every value `v` the reference-mode encoder accepts (= every in-range value) and every
    continuation `rest` of the input (`rest = []` when the layout ends with an item that takes "all
    the rest"): decoding the encoding followed by `rest` returns exactly the value (`canonBody`:
    its fields in declaration order) and `rest` — no bound on array lengths, nesting or sizes other
    than the input being shorter than `usize::MAX`. -/
theorem roundtrip (e : Endian) (m : Mode) (nm : String) (items : Items) (hw : rtWfBody (.root nm items) = true)
    (v : Value) (bs rest : Bytes) (he : encBody { e := e, mode := .ideal } (.root nm items) v = .ok bs)
    (hgr : greedyItems items = true → rest = []) (hb : (bs ++ rest).length < usizeMax) :
    decBody { e := e, mode := m } (.root nm items) (bs ++ rest) = .ok (canonBody (.root nm items) v, rest) := by
  simp only [rtWfBody, Bool.and_eq_true, decide_eq_true_eq] at hw
  obtain ⟨⟨⟨hwi, hdi⟩, hnd⟩, hpm⟩ := hw
  exact root_rt nm ((ty_items_rt { e := e, mode := .ideal } { e := e, mode := m } rfl rfl).2 items) hwi hdi hnd hpm
    v bs rest he hgr hb

/-- `decode_full ∘ encode` is the identity (up to the normal form of the value) -/
theorem roundtrip_full (e : Endian) (m : Mode) (nm : String) (items : Items) (hw : rtWfBody (.root nm items) = true)
    (v : Value) (bs : Bytes) (he : encBody { e := e, mode := .ideal } (.root nm items) v = .ok bs)
    (hb : bs.length < usizeMax) :
    decodeFull { e := e, mode := m } (.root nm items) bs = .ok (canonBody (.root nm items) v) :=
  decodeFull_ok_iff.mpr
    (List.append_nil bs ▸ roundtrip e m nm items hw v bs [] he (fun _ => rfl) (by rwa [List.append_nil]))

/-- **C02.**  The model of the *emitted* encoder followed by the model of the *emitted* decoder: for
    every in-range value the emitted `encode_to_vec` succeeds with the reference bytes and the emitted
    `decode_full` of those bytes is the value. -/
theorem roundtrip_rust (e : Endian) (nm : String) (items : Items) (hw : rtWfBody (.root nm items) = true)
    (hn : noModBody (.root nm items) = true) (v : Value) (bs : Bytes)
    (he : encBody { e := e, mode := .ideal } (.root nm items) v = .ok bs) (hb : bs.length < usizeMax) :
    encBody { e := e, mode := .rust } (.root nm items) v = .ok bs ∧
    decodeFull { e := e, mode := .rust } (.root nm items) bs = .ok (canonBody (.root nm items) v) :=
  ⟨encBody_ideal_to_rust e _ v bs hn he, roundtrip_full e .rust nm items hw v bs he hb⟩

/-- a value that is already in normal form comes back unchanged -/
theorem roundtrip_id (e : Endian) (m : Mode) (nm : String) (items : Items) (hw : rtWfBody (.root nm items) = true)
    (v : Value) (hv : canonBody (.root nm items) v = v) (bs : Bytes)
    (he : encBody { e := e, mode := .ideal } (.root nm items) v = .ok bs) (hb : bs.length < usizeMax) :
    decodeFull { e := e, mode := m } (.root nm items) bs = .ok v := by
  rw [roundtrip_full e m nm items hw v bs he hb, hv]

/-! non-vacuity: `packet P { _count_(x): 8, c: 1, _reserved_: 7, x: 16[], o: 8 if c = 1, _payload_ }`
    is in the round-trippable class -/
example : rtWfBody (.root "P" (.cons (.chunk [.count "x" 8, .flag "c" [("o", 1)], .reserved 7])
    (.cons (.array "x" (.scalar 16) (.static 2) .countField none)
    (.cons (.optional "o" (.scalar 8) "c" 1) (.cons (.payload .last) .nil))))) = true := by
  decide +kernel

/-! ### through the ancestors: inheriting packets at any depth -/

/-- the value an inheriting packet is serialized from carries the constant for every constrained field -/
theorem withConstants_get (allCs : List (String × Nat)) (v : Value) (k : String) (cv : Nat)
    (hn : noConstrained allCs v = true) (hl : allCs.lookup k = some cv) :
    (withConstants allCs v).get? k = some (.int cv) := by
  simp only [noConstrained, List.all_eq_true, Option.isNone_iff_eq_none] at hn
  have h0 : v.get? k = none := hn (k, cv) (by obtain ⟨l₁, l₂, rfl, _⟩ := List.lookup_eq_some_iff.mp hl; simp)
  rw [withConstants_get_eq, h0, hl]; rfl

/-- **one level of `decode_partial`**: when the parent decodes to the fields `F` and a payload that is the
    reference encoding of this level's items, the child decodes to its own fields, the parent's
    unconstrained fields and its own payload -/
theorem level_step (ce cd : Cfg) (hce : ce.mode = .ideal) (hee : ce.e = cd.e)
    (nm : String) (gp : Body) (cs allCs : List (String × Nat)) (items : Items) (v : Value)
    (hw : rtWfLevel items = true) (input rest : Bytes) (F : List (String × Value)) (mb p : Bytes)
    (hgp : decBody cd gp input = .ok (.obj (F ++ [("payload", Value.ofBytes mb)]), rest))
    (hgpPay : gp.hasPayload = true) (hFp : F.lookup "payload" = none)
    (hcs : ∀ kc ∈ cs, parentField gp (.obj (F ++ [("payload", Value.ofBytes mb)])) kc.1 = some kc.2)
    (he : encItems ce items (.ok p) p.length v items = .ok mb) (hb : mb.length < usizeMax) :
    decBody cd (.derived nm gp cs allCs items) input =
      .ok (.obj (canonItems items v ++ (F.filter fun (k, _) => k != "payload" && !(cs.any (·.1 == k))) ++
        (if items.hasPayload then [("payload", Value.ofBytes p)] else [])), rest) := by
  simp only [rtWfLevel, Bool.and_eq_true, decide_eq_true_eq] at hw
  obtain ⟨⟨⟨⟨hwi, hdi⟩, hnd⟩, hpm⟩, _⟩ := hw
  obtain ⟨st', h1, h2, h3⟩ := ((ty_items_rt ce cd hce hee).2 items).whole hwi hdi hnd hpm p v mb [] he (fun _ => rfl)
    (by simpa using hb)
  simp only [List.append_nil] at h1
  refine decBody_derived_ok_iff.mpr ⟨_, hgp, ?_⟩
  -- `decode_partial` on the parent's value: no constraint is violated, the payload it finds is `mb`, the fields
  -- it copies are those of `F`; the own items are then decoded from `mb`, which they consume entirely
  have hviol : violated gp (.obj (F ++ [("payload", Value.ofBytes mb)])) cs = false := by
    simp only [violated, List.any_eq_false, bne_iff_ne, ne_eq, Decidable.not_not]
    exact hcs
  have hoct : (Value.obj (F ++ [("payload", Value.ofBytes mb)])).payloadOctets = mb := by
    simp only [Value.payloadOctets, Value.fields, List.lookup_append, hFp, Option.none_or, List.lookup, BEq.rfl,
      Value.ofBytes, ofBytes_back]
  have hcop : (Value.obj (F ++ [("payload", Value.ofBytes mb)])).copied cs =
      F.filter fun (k, _) => k != "payload" && !(cs.any (·.1 == k)) := by
    simp only [Value.copied, Value.fields, List.filter_append]; simp
  simp only [decPartial, decPartialWith_eq, hviol, Bool.false_eq_true, ↓reduceIte, hgpPay, hoct, h1, Outcome.ok_bind,
    List.isEmpty_nil, hcop, DState.valueWith, h2, h3]
  cases items.hasPayload <;> rfl

theorem chain_lenWf (leafCs : List (String × Nat)) (b : Body) (h : rtWfChain leafCs b = true) :
    lenWfBody b = true ∧ b.hasPayload = true ∧ bodyFind b "payload" = none := by
  induction b using Body.induction with
  | root _ items =>
    simp only [rtWfChain, rtWfLevel, Bool.and_eq_true, beq_iff_eq] at h
    exact ⟨by simpa [lenWfBody] using h.1.1.2, by simpa [Body.hasPayload, Body.items] using h.1.2,
      by simpa [bodyFind] using h.2⟩
  | derived _ gp _ _ items ih =>
    simp only [rtWfChain, rtWfLevel, Bool.and_eq_true, beq_iff_eq] at h
    obtain ⟨h1, h2, _⟩ := ih h.2
    exact ⟨by simp [lenWfBody, h.1.1.1.1.2, h1, h2], by simpa [Body.hasPayload, Body.items] using h.1.1.1.2, h.1.1.2⟩

theorem le_aroundLen (leafCs : List (String × Nat)) (v : Value) (b : Body) (n : Nat) (h : rtWfChain leafCs b = true) :
    n ≤ aroundLen b v n := by
  induction b using Body.induction generalizing n with
  | root _ items =>
    simp only [rtWfChain, Bool.and_eq_true] at h
    simpa [aroundLen] using le_lenItemsP v n items h.1.2
  | derived _ gp _ _ items ih =>
    simp only [rtWfChain, Bool.and_eq_true] at h
    exact Nat.le_trans (le_lenItemsP v n items h.1.1.1.2) (ih (lenItemsP items v n) h.2)

theorem encAround_inner_le (c : Cfg) (leafCs : List (String × Nat)) (v : Value) (b : Body)
    (hch : rtWfChain leafCs b = true) (ib bs : Bytes) (he : encAround c b v (.ok ib) ib.length = .ok bs) :
    ib.length ≤ bs.length := by
  obtain ⟨hl, hp, _⟩ := chain_lenWf leafCs b hch
  obtain ⟨_, h, hlen⟩ := encAround_len c b v _ _ bs hl hp he
  cases h
  exact hlen ▸ le_aroundLen leafCs v b ib.length hch

/-- a constraint of the class holds of the parent value the decoder builds -/
theorem constraint_holds (leafCs : List (String × Nat)) (v : Value)
    (hv : ∀ k cv, leafCs.lookup k = some cv → v.get? k = some (.int cv)) (gp : Body) (x : Value)
    (kc : String × Nat) (hk : constraintOk leafCs gp kc = true) :
    parentField gp (.obj (fieldsAround gp v ++ [("payload", x)])) kc.1 = some kc.2 := by
  simp only [constraintOk, Bool.and_eq_true, beq_iff_eq, bne_iff_ne, ne_eq, Bool.or_eq_true] at hk
  obtain ⟨⟨hl, hnp⟩, hf⟩ := hk
  have hval := hv kc.1 kc.2 hl
  have hfs := fieldsAround_find v kc.1 gp
  simp only [parentField, Value.fields]
  cases hf with
  | inl ht =>
    rw [List.lookup_append, hfs.2 ht, hval]; rfl
  | inr hn =>
    have hb : (kc.1 == "payload") = false := by simpa using hnp
    rw [List.lookup_append, hfs.1 hn.1]
    simp only [Option.none_or, List.lookup, hb]
    cases gp with
    | root _ _ => simp [Body.allCs] at hn
    | derived _ _ _ a _ => simpa [Body.allCs] using hn.2

/-- **the ancestors, outermost first**: decoding what the reference-mode encoder wrapped around the inner
    octets `ib` yields, at every ancestor, that ancestor's fields and `ib` as its payload -/
theorem around_rt (ce cd : Cfg) (hce : ce.mode = .ideal) (hee : ce.e = cd.e) (leafCs : List (String × Nat)) (v : Value)
    (hv : ∀ k cv, leafCs.lookup k = some cv → v.get? k = some (.int cv)) :
    ∀ (b : Body), rtWfChain leafCs b = true → ∀ (ib bs rest : Bytes),
      encAround ce b v (.ok ib) ib.length = .ok bs → (greedyBody b = true → rest = []) →
      (bs ++ rest).length < usizeMax →
      decBody cd b (bs ++ rest) = .ok (.obj (fieldsAround b v ++ [("payload", Value.ofBytes ib)]), rest) := by
  intro b
  induction b using Body.induction with
  | root nm items =>
    intro hw ib bs rest he hgr hb
    simp only [rtWfChain, rtWfLevel, Bool.and_eq_true, decide_eq_true_eq] at hw
    obtain ⟨⟨⟨⟨⟨⟨hwi, hdi⟩, hnd⟩, hpm⟩, _⟩, hpay⟩, _⟩ := hw
    simp only [encAround] at he
    obtain ⟨st', h1, h2, h3⟩ := ((ty_items_rt ce cd hce hee).2 items).whole hwi hdi hnd hpm ib v bs rest he hgr hb
    simp only [hpay, ↓reduceIte] at h3
    exact decBody_root_ok_iff.mpr ⟨st', h1, by simp only [DState.value, h2, h3, fieldsAround]⟩
  | derived nm gp cs a items ih =>
    intro hw ib bs rest he hgr hb
    simp only [rtWfChain, Bool.and_eq_true, beq_iff_eq, List.all_eq_true] at hw
    obtain ⟨⟨⟨⟨hlev, hpay⟩, hnop⟩, hcs⟩, hch⟩ := hw
    have hlev' := hlev
    simp only [rtWfLevel, Bool.and_eq_true, decide_eq_true_eq] at hlev'
    obtain ⟨⟨⟨⟨_, _⟩, _⟩, hpm⟩, hlw⟩ := hlev'
    obtain ⟨hgl, hgpay, hgnop⟩ := chain_lenWf leafCs gp hch
    obtain ⟨mb, hmb, he'⟩ := encAround_derived_ok ce nm gp cs a items v ib bs
      (by simp [lenWfBody, hlw, hgl, hgpay]) hpay hpm he
    have hgr' : greedyBody gp = true → rest = [] := by simpa [greedyBody] using hgr
    have ih := ih hch mb bs rest he' hgr' hb
    have hmble : mb.length < usizeMax := by
      have := encAround_inner_le ce leafCs v gp hch mb bs he'
      simp only [List.length_append] at hb; omega
    have hstep := level_step ce cd hce hee nm gp cs a items v hlev (bs ++ rest) rest (fieldsAround gp v) mb ib ih hgpay
      ((fieldsAround_find v "payload" gp).1 hgnop)
      (fun kc hkc => constraint_holds leafCs v hv gp _ kc (hcs kc hkc)) hmb hmble
    rw [hstep]
    simp only [hpay, ↓reduceIte, fieldsAround, List.append_assoc]

/-- **C02 through the ancestors.**  For every inheriting packet, at any depth, whose levels are in the
    round-trippable class and whose constraints name scalar / enum fields of an ancestor (`rtWfFull`:
    decidable, evaluated by the check on every generated layout), both byte orders, the decoder in either
    mode, every value the reference-mode encoder accepts: `decode` — which parses the outermost ancestor,
    then checks the constraints and parses the payload level by level (`decode_partial`) — returns the
    value (own fields, then the inherited unconstrained fields, then the payload) and the rest. -/
theorem roundtrip_inherit (e : Endian) (m : Mode) (nm : String) (parent : Body) (cs allCs : List (String × Nat))
    (items : Items) (hw : rtWfFull (.derived nm parent cs allCs items) = true) (v : Value)
    (hv : noConstrained allCs v = true) (bs rest : Bytes)
    (he : encBody { e := e, mode := .ideal } (.derived nm parent cs allCs items) v = .ok bs)
    (hgr : greedyBody parent = true → rest = []) (hb : (bs ++ rest).length < usizeMax) :
    decBody { e := e, mode := m } (.derived nm parent cs allCs items) (bs ++ rest) =
      .ok (canonFull (.derived nm parent cs allCs items) v, rest) := by
  simp only [rtWfFull, Bool.and_eq_true, List.all_eq_true] at hw
  obtain ⟨⟨hlev, hcs⟩, hch⟩ := hw
  have hlev' := hlev
  simp only [rtWfLevel, Bool.and_eq_true, decide_eq_true_eq] at hlev'
  obtain ⟨_, hlw⟩ := hlev'
  obtain ⟨hgl, hgpay, hgnop⟩ := chain_lenWf allCs parent hch
  obtain ⟨p, ib, hp, hib, he'⟩ := encBody_derived_ok _ nm parent cs allCs items v bs
    (by simp [lenWfBody, hlw, hgl, hgpay]) he
  have hv' : ∀ k cv, allCs.lookup k = some cv → (withConstants allCs v).get? k = some (.int cv) :=
    fun k cv h => withConstants_get allCs v k cv hv h
  have hpar := around_rt { e := e, mode := .ideal } { e := e, mode := m } rfl rfl allCs (withConstants allCs v) hv'
    parent hch ib bs rest he' hgr hb
  have hible : ib.length < usizeMax := by
    have := encAround_inner_le _ allCs (withConstants allCs v) parent hch ib bs he'
    simp only [List.length_append] at hb; omega
  have hstep := level_step { e := e, mode := .ideal } { e := e, mode := m } rfl rfl nm parent cs allCs items
    (withConstants allCs v) hlev (bs ++ rest) rest (fieldsAround parent (withConstants allCs v)) ib p hpar hgpay
    ((fieldsAround_find _ "payload" parent).1 hgnop)
    (fun kc hkc => constraint_holds allCs _ hv' parent _ kc (hcs kc hkc)) hib hible
  rw [hstep]
  simp only [canonFull, fieldsAround]
  cases hpay : items.hasPayload with
  | true =>
    simp only [hpay, ↓reduceIte] at hp ⊢
    simp only [payloadBytes, hp, Option.getD_some]
  | false => simp only [Bool.false_eq_true, ↓reduceIte]

/-- `decode_full ∘ encode` is the identity for inheriting packets, up to the normal form `canonFull`: the members in
    the order the decoder builds them, the constrained ones with their constants (`canonBody` is the identity on an
    inheriting packet and is not what comes back) -/
theorem roundtrip_inherit_full (e : Endian) (m : Mode) (nm : String) (parent : Body) (cs allCs : List (String × Nat))
    (items : Items) (hw : rtWfFull (.derived nm parent cs allCs items) = true) (v : Value)
    (hv : noConstrained allCs v = true) (bs : Bytes)
    (he : encBody { e := e, mode := .ideal } (.derived nm parent cs allCs items) v = .ok bs) (hb : bs.length < usizeMax) :
    decodeFull { e := e, mode := m } (.derived nm parent cs allCs items) bs =
      .ok (canonFull (.derived nm parent cs allCs items) v) :=
  decodeFull_ok_iff.mpr
    (List.append_nil bs ▸ roundtrip_inherit e m nm parent cs allCs items hw v hv bs [] he (fun _ => rfl)
      (by rwa [List.append_nil]))

/-- **C02, any body**: packets and structs without parent and inheriting packets alike; what comes back is
    `canonFull b v`, which is `canonBody b v` only for a body without parent -/
theorem roundtrip_any (e : Endian) (m : Mode) (b : Body) (hw : rtWfFull b = true) (v : Value)
    (hv : noConstrained b.allCs v = true) (bs : Bytes)
    (he : encBody { e := e, mode := .ideal } b v = .ok bs) (hb : bs.length < usizeMax) :
    decodeFull { e := e, mode := m } b bs = .ok (canonFull b v) := by
  cases b with
  | root nm items => exact roundtrip_full e m nm items (by simpa [rtWfFull] using hw) v bs he hb
  | derived nm parent cs allCs items => exact roundtrip_inherit_full e m nm parent cs allCs items hw v hv bs he hb

/-- **"decoded as any ancestor and specialized back down"**: the same bytes decoded as the direct parent
    give the parent's fields and the child's octets as payload, and `Child::try_from(&parent)`
    (`decode_partial`) applied to that value is the child's value again -/
theorem roundtrip_via_parent (e : Endian) (m : Mode) (nm : String) (parent : Body) (cs allCs : List (String × Nat))
    (items : Items) (hw : rtWfFull (.derived nm parent cs allCs items) = true) (v : Value)
    (hv : noConstrained allCs v = true) (bs : Bytes)
    (he : encBody { e := e, mode := .ideal } (.derived nm parent cs allCs items) v = .ok bs) (hb : bs.length < usizeMax) :
    ∃ pv, decBody { e := e, mode := m } parent bs = .ok (pv, []) ∧
      decPartial { e := e, mode := m } parent cs items pv = .ok (canonFull (.derived nm parent cs allCs items) v) :=
  decBody_derived_ok_iff.mp (decodeFull_ok_iff.mp (roundtrip_inherit_full e m nm parent cs allCs items hw v hv bs he hb))

/-! non-vacuity: `packet P { k: 8, x: 8, _payload_ }`, `packet C : P (k = 3) { y: 16 }` is in the class, and the
    statement's premises hold of the value `{ x: 7, y: 513 }`, whose encoding is `03 07 01 02` -/
example :
    let P : Body := .root "P" (.cons (.chunk [.scalar "k" 8, .scalar "x" 8]) (.cons (.payload .last) .nil))
    let C : Body := .derived "C" P [("k", 3)] [("k", 3)] (.cons (.chunk [.scalar "y" 16]) .nil)
    let v : Value := .obj [("x", .int 7), ("y", .int 513)]
    rtWfFull C = true ∧ noConstrained [("k", 3)] v = true ∧
    encBody { e := .little, mode := .ideal } C v = .ok [3, 7, 1, 2] := by
  refine ⟨by decide +kernel, by decide +kernel, by rfl⟩

end Pdlv
