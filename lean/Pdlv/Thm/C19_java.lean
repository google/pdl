/-
  Pdlv.Thm.C19_java — C19: what the Java back end emits (models `Pdlv.Java`, `Pdlv.JavaStruct`, tied to the emitted classes by
  differential execution) against the reference, for packets and structs without parent — serializer and parser on three
  nested classes of layouts (bit-field groups; with arrays and payloads; with struct-typed fields) — and for the serializer
  of child classes; the recorded deviations `KF-C19-…` as concrete inputs.
-/
import Pdlv.Lemmas.JavaSerChild
import Pdlv.Lemmas.JavaStructSame
import Pdlv.Thm.C03

namespace Pdlv
namespace Java

theorem items_ref (en : Endian) (all : Items) (p : Bytes) (v : Value) : ∀ (is : Items) (bs : Bytes),
    wfItems is = true → Pdlv.encItems { e := en, mode := .ideal } all (.ok p) p.length v is = .ok bs →
      Java.encItems en all p v is = .ok bs :=
  fun is bs hw => items_refE en all p v is bs (encWfItems_of_wfItems is hw)

/-- **C19, serializer with struct-typed fields.**  The class of `java_writes_arrays_and_payloads` extended by fields typed by a
    struct whose own fields are in that class (`Java.encWfItems3`): `buf.put(x.toBytes())` writes the reference encoding of
    the struct value in place. -/
theorem java_writes_struct_fields (c : Cfg) (nm : String) (items : Items) (hw : encWfItems3 items = true)
    (hr : refWfBody (.root nm items) = true) (v : Value) (bs : Bytes)
    (h : Pdlv.encBody { e := c.e, mode := .ideal } (.root nm items) v = .ok bs) :
    Java.encBodyS c (.root nm items) v = .ok bs ∧ Ref.encode c.e (.root nm items) v = some bs := by
  refine ⟨?_, encode_ideal_eq_ref c.e _ hr v bs h⟩
  obtain ⟨p, hp, h⟩ := encBody_root_ok_iff.mp h
  simp only [Java.encBodyS, Java.encStructS, hp]
  exact items_refE3 c.e items p v items bs hw h

/-- **C19, size and count fields, arrays, payloads (serializer).**  For every packet or struct without parent made of bit-field
    groups of at most 32 bits — size and count fields with their modifiers among them —, arrays of scalars of whole octets and
    payloads (`Java.encWfItems`: decidable, evaluated per run), both byte orders, and every value the reference assigns an
    encoding to: the model of the emitted `toBytes()` — the size expression summed in `int`, the `fieldWidth`-style range
    check, `encode_bytes` per element — writes exactly the reference encoding. -/
theorem java_writes_arrays_and_payloads (c : Cfg) (nm : String) (items : Items) (hw : encWfItems items = true)
    (hr : refWfBody (.root nm items) = true) (v : Value) (bs : Bytes)
    (h : Pdlv.encBody { e := c.e, mode := .ideal } (.root nm items) v = .ok bs) :
    Java.encBody c (.root nm items) v = .ok bs ∧ Ref.encode c.e (.root nm items) v = some bs :=
  encBodyS_eq c nm items hw v ▸ java_writes_struct_fields c nm items (encWfItems3_of_encWfItems items hw) hr v bs h

/-- **C19, bit-field groups.**  For every packet or struct without parent made of scalars, enums, fixed values and
    reserved bits in groups of at most 32 bits (`Java.wfBody`: decidable, evaluated per run), both byte orders, and every
    value the reference assigns an encoding to: the model of the emitted `toBytes()` — each field widened without sign,
    shifted to its offset in `int`, the shifted fields OR-ed and cast to the group's type — writes exactly the reference
    encoding.  Java's signed types, the masked shift distances and the casts `ExprTree` inserts lose nothing below
    33 bits. -/
theorem java_packs_groups_up_to_32_bits (c : Cfg) (nm : String) (items : Items) (hw : wfBody (.root nm items) = true)
    (hr : refWfBody (.root nm items) = true) (v : Value) (bs : Bytes)
    (h : Pdlv.encBody { e := c.e, mode := .ideal } (.root nm items) v = .ok bs) :
    Java.encBody c (.root nm items) v = .ok bs ∧ Ref.encode c.e (.root nm items) v = some bs :=
  java_writes_arrays_and_payloads c nm items (encWfItems_of_wfItems items hw) hr v bs h

/-- **C19, serializer of child classes.**  For every child packet whose own fields and whose ancestors' fields are in the
    serializer class, with one payload per ancestor and static annotations that agree with the types (`Java.encWfChild`:
    decidable, evaluated per run), both byte orders, and every value the reference-mode encoder assigns an encoding to: the
    model of the emitted `toBytes()` — own fields into a buffer, then `super.toBytes(buf)` per ancestor, every payload size
    field computed from `payload.limit()`, constrained members holding the constants of the child's builder — writes exactly
    the reference's bytes. -/
theorem java_child_serializer_writes_reference (c : Cfg) (nm : String) (parent : Body) (cs allCs : List (String × Nat))
    (items : Items) (hw : encWfChild (.derived nm parent cs allCs items) = true) (v : Value) (bs : Bytes)
    (he : Pdlv.encBody { e := c.e, mode := .ideal } (.derived nm parent cs allCs items) v = .ok bs) :
    Java.encBody c (.derived nm parent cs allCs items) v = .ok bs := by
  simp only [encWfChild, Bool.and_eq_true] at hw
  obtain ⟨p, ib, hp, hib, he'⟩ := encBody_derived_ok _ nm parent cs allCs items v bs hw.2 he
  have hl := hw.2
  simp only [lenWfBody, Bool.and_eq_true] at hl
  have hib' : Java.encItems c.e items p (Value.obj (v.fields ++ allCs.map fun (k, c) => (k, Value.int c))) items = .ok ib :=
    items_refE c.e items p (withConstants allCs v) items ib hw.1.1 hib
  simp only [Java.encBody, hp, hib', Outcome.ok_bind]
  exact around_ideal_to_java c parent (withConstants allCs v) ib bs hw.1.2 hl.1.2 he'

/-! non-vacuity: `packet R { k: 8, _size_(_payload_): 8, _payload_ }`, `packet C : R (k = 2) { y: 16 }` -/
example :
    let root : Body := .root "R" (.cons (.chunk [.scalar "k" 8, .size "_payload_" 8 0]) (.cons (.payload (.sized 0)) .nil))
    let ch : Body := .derived "C" root [("k", 2)] [("k", 2)] (.cons (.chunk [.scalar "y" 16]) .nil)
    encWfChild ch = true ∧ Java.encBody { e := .little } ch (.obj [("y", .int 0x1234)]) = .ok [2, 2, 0x34, 0x12] := by
  refine ⟨by decide, by rfl⟩

/-- **C19, bit-field groups, parser side.**  For every packet or struct without parent made of bit-fields in groups of
    exactly 8, 16 or 32 bits (`Java.decWfItems`), both byte orders and EVERY byte string: the model of the emitted
    `fromBytes(byte[])` — the group read with `get` / `getShort` / `getInt`, each field `(group >>> offset) & mask` after an
    unsigned widening, a field that is the whole group taken as the raw (signed) variable — returns an object exactly
    when the reference `decode_full` accepts, with the same field values (as bit patterns of the declared widths). -/
theorem java_reads_groups_of_8_16_32_bits (c : Cfg) (nm : String) (items : Items) (hw : decWfItems items = true)
    (bs : Bytes) (v : Value) :
    Java.decodeFull c (.root nm items) bs = .ok v ↔
      Pdlv.decodeFull { e := c.e, mode := .ideal } (.root nm items) bs = .ok v :=
  (finish_sim (items_same c.e items hw bs DState.empty DState.empty ⟨rfl, rfl⟩)).iff v

/-- **C19, parser with arrays and payloads.**  For every packet or struct without parent made of bit-field groups of 8, 16
    or 32 bits — among them size and count fields that are NOT exactly as wide as a Java integral type, without modifier —,
    arrays of 8-, 16-, 32- or 64-bit scalars and enums (closed or open: an undeclared value of a closed enum is the exception
    `fromX` throws) of every shape (static count, count field, size field, rest of the packet) and a
    payload (sized, before static fields, or last) (`Java.decWfItems2`), both byte orders and EVERY byte string a Java array can
    hold (fewer than 2^31 octets): the model of the emitted `fromBytes(byte[])` returns an object exactly when the reference
    `decode_full` accepts, with the same field values — the sizes read as Java `int`s, the element count derived from a size by
    division after the alignment test, the `BufferUnderflowException` of a read past the end, the slice of the payload. -/
theorem java_reads_arrays_and_payloads (c : Cfg) (nm : String) (items : Items) (hw : decWfItems2 items = true)
    (bs : Bytes) (hb : bs.length < 2 ^ 31) (v : Value) :
    Java.decodeFull c (.root nm items) bs = .ok v ↔
      Pdlv.decodeFull { e := c.e, mode := .ideal } (.root nm items) bs = .ok v :=
  decodeFullS_eq c nm items hw bs ▸ decode_same3 c nm items (decWfItems3_of_decWfItems2 items hw) bs hb v

/-- **C19, parser with struct-typed fields.**  The class of `java_reads_arrays_and_payloads` extended by fields typed by a
    struct without payload, of static size, whose own fields are in that class (`Java.decWfItems3`): the model of the emitted
    `fromBytes` — the struct parsed from `buf.slice()`, the buffer then advanced by the struct's constant `width()` — accepts
    exactly what the reference `decode_full` accepts, with the same (nested) field values, for every byte string below 2^31
    octets.  (The reference continues where the struct's parser stopped; that is `width()` octets on: `decItems_exact_len`,
    `decItems_suffix`.) -/
theorem java_reads_struct_fields (c : Cfg) (nm : String) (items : Items) (hw : decWfItems3 items = true)
    (bs : Bytes) (hb : bs.length < 2 ^ 31) (v : Value) :
    Java.decodeFullS c (.root nm items) bs = .ok v ↔
      Pdlv.decodeFull { e := c.e, mode := .ideal } (.root nm items) bs = .ok v :=
  decode_same3 c nm items hw bs hb v

/-- the class of `java_reads_struct_fields` contains the class of `java_reads_arrays_and_payloads`; the former is about
    `decodeFullS`, the latter about `decodeFull`, which agree there (`java_struct_model_is_the_same_on_the_classes`) -/
theorem struct_field_class_contains_the_array_class (items : Items) (h : decWfItems2 items = true) :
    decWfItems3 items = true :=
  decWfItems3_of_decWfItems2 items h

/-- the model the driver runs against the emitted classes also covers struct-typed fields (`Pdlv.JavaStruct`: the struct parsed
    from `buf.slice()`, the buffer advanced by its `width()`); on the classes of `java_reads_arrays_and_payloads` and
    `java_writes_arrays_and_payloads` it IS the model they are about -/
theorem java_struct_model_is_the_same_on_the_classes (c : Cfg) (nm : String) (items : Items) :
    (decWfItems2 items = true → ∀ bs, Java.decodeFullS c (.root nm items) bs = Java.decodeFull c (.root nm items) bs) ∧
    (encWfItems items = true → ∀ v, Java.encBodyS c (.root nm items) v = Java.encBody c (.root nm items) v) :=
  ⟨fun hw bs => decodeFullS_eq c nm items hw bs, fun hw v => encBodyS_eq c nm items hw v⟩

/-! `struct S { a: 8, b: 16 } packet P { k: 8, s: S, t: 8 }`: `01 02 34 12 09` is read with `s = { a: 2, b: 0x1234 }` -/
example :
    let sb : Body := .root "S" (.cons (.chunk [.scalar "a" 8]) (.cons (.chunk [.scalar "b" 16]) .nil))
    let items : Items := .cons (.chunk [.scalar "k" 8]) (.cons (.typedef "s" (.struct "S" sb) (some 3)) (.cons (.chunk [.scalar "t" 8]) .nil))
    decWfItems3 items = true ∧ encWfItems3 items = true ∧
    Java.decodeFullS { e := .little } (.root "P" items) [1, 2, 0x34, 0x12, 9] =
      .ok (.obj [("k", .int 1), ("s", .obj [("a", .int 2), ("b", .int 0x1234)]), ("t", .int 9)]) ∧
    Java.encBodyS { e := .little } (.root "P" items)
      (.obj [("k", .int 1), ("s", .obj [("a", .int 2), ("b", .int 0x1234)]), ("t", .int 9)]) = .ok [1, 2, 0x34, 0x12, 9] := by
  refine ⟨by decide, by decide, by rfl, by rfl⟩

/-- **KF-C19-int-chunk**: `packet P { a: 9, b: 2, c: 29 }` (one group of 40 bits, every field at most 32 bits wide) with
    `c = 0x1fffffff`: `c << 11` is computed in `int` and loses its high bits; the emitted bytes are `01 fa ff ff 00`
    where the reference writes `01 fa ff ff ff` -/
theorem int_chunk_loses_bits :
    let items : Items := .cons (.chunk [.scalar "a" 9, .scalar "b" 2, .scalar "c" 29]) .nil
    let v : Value := .obj [("a", .int 1), ("b", .int 1), ("c", .int 0x1fffffff)]
    Java.encBody { e := .little } (.root "P" items) v = .ok [0x01, 0xfa, 0xff, 0xff, 0x00] ∧
    Pdlv.encBody { e := .little, mode := .ideal } (.root "P" items) v = .ok [0x01, 0xfa, 0xff, 0xff, 0xff] := by
  refine ⟨by rfl, by rfl⟩

/-- **KF-C19-get24**: `packet P { a: 24 }`: `Utils.get24` combines the octets with `>>>`: `56 34 12` is read back as
    `a = 0x56` where the reference reads `0x123456` -/
theorem get24_keeps_the_low_octet :
    let items : Items := .cons (.chunk [.scalar "a" 24]) .nil
    Java.decodeFull { e := .little } (.root "P" items) [0x56, 0x34, 0x12] = .ok (.obj [("a", .int 0x56)]) ∧
    Pdlv.decodeFull { e := .little, mode := .ideal } (.root "P" items) [0x56, 0x34, 0x12] = .ok (.obj [("a", .int 0x123456)]) := by
  refine ⟨by rfl, by rfl⟩

/-- **KF-C19-signed-size**: `packet P { _size_(a): 8, a: 8[] }` — the size field is the whole 8-bit group, so the emitted
    parser takes the raw `byte`: a size of 200 is `-56`, and the back end rejects its own output (`c8` followed by 200
    octets), which the reference accepts -/
theorem signed_size_rejects_own_output :
    let items : Items := .cons (.chunk [.size "a" 8 0]) (.cons (.array "a" (.scalar 8) (.static 1) .sizeField none) .nil)
    (Java.decodeFull { e := .little } (.root "P" items) (200 :: List.replicate 200 7)).isOk = false ∧
    (Pdlv.decodeFull { e := .little, mode := .ideal } (.root "P" items) (200 :: List.replicate 200 7)).isOk = true := by
  refine ⟨by decide +kernel, by decide +kernel⟩

/-! non-vacuity: `packet P { t: 1, _size_(a): 7, a: 16[], _count_(b): 4, u: 4, b: 8[], _payload_ }` is in `decWfItems2` -/
example :
    let items : Items := .cons (.chunk [.scalar "t" 1, .size "a" 7 0]) (.cons (.array "a" (.scalar 16) (.static 2) .sizeField none)
      (.cons (.chunk [.count "b" 4, .scalar "u" 4]) (.cons (.array "b" (.scalar 8) (.static 1) .countField none)
      (.cons (.payload .last) .nil))))
    decWfItems2 items = true ∧
    (Java.decodeFull { e := .little } (.root "P" items) [0x09, 0x34, 0x12, 0x78, 0x56, 0x32, 9, 8, 0xaa]).isOk = true := by
  refine ⟨by decide, by rfl⟩

/-! non-vacuity: `packet P { t: 1, _size_(a): 7, a: 16[], _count_(b): 4, u: 4, b: 8[], _payload_ }` is in `encWfItems`
    too -/
example :
    let items : Items := .cons (.chunk [.scalar "t" 1, .size "a" 7 0]) (.cons (.array "a" (.scalar 16) (.static 2) .sizeField none)
      (.cons (.chunk [.count "b" 4, .scalar "u" 4]) (.cons (.array "b" (.scalar 8) (.static 1) .countField none)
      (.cons (.payload .last) .nil))))
    encWfItems items = true ∧
    Java.encBody { e := .little } (.root "P" items) (.obj [("t", .int 1), ("a", .arr [.int 0x1234, .int 0x5678]), ("u", .int 3),
      ("b", .arr [.int 9, .int 8]), ("payload", .arr [.int 0xaa])]) = .ok [0x09, 0x34, 0x12, 0x78, 0x56, 0x32, 9, 8, 0xaa] := by
  refine ⟨by decide, by rfl⟩

/-! non-vacuity: `enum E : 8 { A = 1, B = 2 } packet P { _count_(x): 4, u: 4, x: E[] }` is in `decWfItems2`; `12 01 02` is
    read as `x = [A, B]`, and `11 07` (an undeclared value) is rejected by the emitted parser and by the reference -/
example :
    let e : Enum.Decl := { width := 8, tags := [.value { id := "A", value := 1 }, .value { id := "B", value := 2 }] }
    let items : Items := .cons (.chunk [.count "x" 4, .scalar "u" 4]) (.cons (.array "x" (.enumTy "E" e) (.static 1) .countField none) .nil)
    decWfItems2 items = true ∧
    Java.decodeFull { e := .little } (.root "P" items) [0x12, 1, 2] = .ok (.obj [("u", .int 1), ("x", .arr [.int 1, .int 2])]) ∧
    (Java.decodeFull { e := .little } (.root "P" items) [0x11, 7]).isOk = false ∧
    (Pdlv.decodeFull { e := .little, mode := .ideal } (.root "P" items) [0x11, 7]).isOk = false := by
  refine ⟨by decide, by rfl, by rfl, by rfl⟩

/-! non-vacuity: `packet P { a: 3, _fixed_ = 5 : 5, e: 16, _reserved_ : 8 }` is in `wfBody` -/
example :
    let items : Items := .cons (.chunk [.scalar "a" 3, .fixed 5 5]) (.cons (.chunk [.scalar "e" 16, .reserved 8]) .nil)
    wfBody (.root "P" items) = true ∧
    Java.encBody { e := .big } (.root "P" items) (.obj [("a", .int 6), ("e", .int 0x1234)]) = .ok [0x2e, 0x00, 0x12, 0x34] := by
  refine ⟨by decide, by rfl⟩

end Java
end Pdlv
