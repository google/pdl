/-
  C03 — the Rust encoder emits exactly the wire format of the language reference.

  `Pdlv.Ref` is the reference at the level of bits (written from doc/reference.md); the emitted
  code works with shifts, ors and `put_uint`.  `Pdlv.Lemmas.RefBits` holds the arithmetic that
  connects the two formulations (`bitsOf_append`, `groupBytes_eq_putUint`, …); this file states
  the whole-packet result: the encoder model in reference mode (`Mode.ideal` — the executable
  reference every back end is compared with) writes exactly `Ref.encode`.
-/
import Pdlv.Lemmas.RefEq
import Pdlv.Lemmas.OkLe
import Pdlv.Lemmas.Layout
import Pdlv.Thm.C05

namespace Pdlv
open Ref

open Outcome

/-- the forward direction at every level of a layout: types; field lists (the array table the reference
    computes is the encoder model's, then the items against a table); a struct body as the type it is -/
theorem ref_all (c : Cfg) (hm : c.mode = .ideal) :
    (∀ ty, refWfTy ty = true → ∀ x bs, encTy c ty x = .ok bs → Ref.encTy c.e ty x = some bs) ∧
    (∀ is,
      (∀ all p pl v bs, refWfItems all is = true → encItems c all p pl v is = .ok bs →
        Ref.arrays c.e is v = some (wireArrs c is v) ∧ ArrCorr is v (wireArrs c is v)) ∧
      (∀ all p v arrs, ArrCorr all v arrs → (arrs.map (·.id)).Nodup → ∀ bs, refWfItems all is = true →
        (∀ a ∈ wireArrs c is v, a ∈ arrs) → encItems c all (.ok p) p.length v is = .ok bs →
        Ref.encItems c.e arrs p v is = some bs)) ∧
    (∀ b, refWfTy (.struct "" b) = true → ∀ x bs, encBody c b x = .ok bs → Ref.encBody c.e b x none = some bs) := by
  apply Layout.induction₃
  case scalar =>
    intro w hw x bs he
    obtain ⟨n, rfl, _, ho, rfl⟩ := encTy_scalar_ok_iff.mp he
    have hlt : n < 2 ^ w := (le_maskBits_iff w n).mp (elemOutOfRange_ideal_iff.mp (hm ▸ ho))
    simp only [Ref.encTy, fits, hlt, decide_true, ↓reduceIte, intBytes_ref c.e w n (by simpa [refWfTy] using hw)]
  case enumTy =>
    intro nm en hw x bs he
    obtain ⟨n, rfl, hok, rfl⟩ := encTy_enumTy_ok_iff.mp he
    simp only [Ref.encTy, hok, ↓reduceIte, intBytes_ref c.e en.width n (by simpa [refWfTy] using hw)]
  case custom =>
    intro nm w hw x bs he
    obtain ⟨n, rfl, hlt, rfl⟩ := encTy_custom_ok_iff.mp he
    simp only [Ref.encTy, fits, hlt, decide_true, ↓reduceIte, intBytes_ref c.e w n (by simpa [refWfTy] using hw)]
  case struct =>
    intro nm b ih hw x bs he
    simp only [encTy] at he
    simp only [Ref.encTy]
    cases b with
    | root nm' items => exact ih hw x bs he
    | derived => cases hw
  case nil =>
    refine ⟨fun _ _ _ _ _ _ _ => ⟨rfl, fun t elem ew h => ?_⟩, fun _ _ _ _ _ _ _ _ _ he => ?_⟩
    · cases h
    · cases he; rfl
  case cons =>
    intro i r hty ⟨iha, ihi⟩
    refine ⟨fun all p pl v bs hw he => ?_, fun all p v arrs hcorr hnd bs hw hmem he => ?_⟩
    · simp only [refWfItems, Bool.and_eq_true] at hw
      obtain ⟨a, b, ha, hb, _⟩ := encItems_cons_ok_iff.mp he
      obtain ⟨ih1, ih2⟩ := iha all p pl v b hw.2 hb
      cases i with
      | array id elem ew shape pad =>
        simp only [refWfItem, Bool.and_eq_true] at hw
        obtain ⟨vs, es, hget, _, _, hes, _⟩ := encItem_array_ok_iff.mp ha
        have hlen := encListWith_length (encTy c elem) (lenTy elem) (fun x b hx => encTy_len c elem x b hw.1.2 hx) vs es hes
        have hel := encElems_of_encListWith (encTy c elem) (Ref.encTy c.e elem) (lenTy elem)
          (fun x b hx => ⟨hty elem rfl hw.1.1 x b hx, encTy_len c elem x b hw.1.2 hx⟩) vs es hes
        refine ⟨by simp only [Ref.arrays, hget, hel, ih1, wireArrs, hes], ?_⟩
        intro t el ew' hfa
        simp only [firstArray] at hfa
        simp only [wireArrs, hget, hes]
        split at hfa
        · rename_i hid
          cases hfa
          have hid' : id = t := by simpa using hid
          exact ⟨{ id := id, bytes := es, elemLens := vs.map (lenTy elem), count := vs.length }, vs,
            by simp [lookupArr, hid], hid' ▸ hget, rfl, rfl, hlen⟩
        · rename_i hid
          obtain ⟨a', vs', h1, h2'⟩ := ih2 t el ew' hfa
          exact ⟨a', vs', by simp only [lookupArr, List.find?_cons, hid]; exact h1, h2'⟩
      | _ => exact ⟨ih1, ih2⟩
    · simp only [refWfItems, Bool.and_eq_true] at hw
      obtain ⟨a, b, ha, hb, rfl⟩ := encItems_cons_ok_iff.mp he
      have ihr := ihi all p v arrs hcorr hnd b hw.2 (fun x hx => hmem x (wireArrs_tail c i r v x hx)) hb
      have hitem : Ref.encItem c.e arrs p v i = some a := by
        cases i with
        | chunk fs =>
          simp only [refWfItem, Bool.and_eq_true, beq_iff_eq, List.all_eq_true] at hw
          obtain ⟨X, hX, rfl⟩ := encItem_chunk_ok_iff.mp ha
          simp only [hm, BEq.rfl] at hX
          obtain ⟨N, hN, hXN⟩ := chunk_ref all p.length v arrs hcorr fs 0 0 X (fun f hf => by simpa using hw.1.2 f hf) hX
          obtain rfl : X = N := by simpa using hXN
          simp only [Ref.encItem, hN, Option.map_some, intBytes_ref c.e (chunkBits fs) X hw.1.1]
        | typedef id ty sb =>
          obtain ⟨x, hv, hx⟩ := encItem_typedef_ok_iff.mp ha
          simp only [Ref.encItem, hv]
          exact hty ty rfl hw.1 x a hx
        | optional id ty ci cv =>
          rcases encItem_optional_ok ha with ⟨hp, rfl⟩ | ⟨x, hv, hn, hx⟩
          · exact refItem_optional_absent hp
          · rw [refItem_optional_present hv hn]; exact hty ty rfl hw.1 x a hx
        | payload m => cases (encPayload_verbatim c all p p.length v m).symm.trans ha; rfl
        | array id elem ew shape pad =>
          obtain ⟨vs, es, hget, hcnt, _, hes, hpad⟩ := encItem_array_ok_iff.mp ha
          obtain ⟨hle, rfl⟩ := padTo_ok_iff.mp hpad
          have hrec : ({ id := id, bytes := es, elemLens := vs.map (lenTy elem), count := vs.length } : ArrInfo) ∈ arrs :=
            hmem _ (by simp only [wireArrs, hget, hes]; exact List.mem_cons_self ..)
          exact refItem_array_some_iff.mpr ⟨_, lookupArr_of_mem arrs _ hrec hnd, hcnt, hle, rfl⟩
      simp only [Ref.encItems, hitem, ihr]
  case root =>
    intro nm items ⟨iha, ihi⟩ hw x bs he
    simp only [refWfTy, Bool.and_eq_true, decide_eq_true_eq] at hw
    obtain ⟨p, hp, he⟩ := encBody_root_ok_iff.mp he
    obtain ⟨h1, h2⟩ := iha items (.ok p) p.length x bs hw.1.1 he
    simp only [Ref.encBody, hp, h1]
    exact ihi items p x (wireArrs c items x) h2 ((wireArrs_ids_sublist c x items).nodup hw.2) bs hw.1.1
      (fun a ha => ha) he
  case derived => intro _ _ _ _ _ _ _ hw; cases hw

theorem encTy_ref (c : Cfg) (hm : c.mode = .ideal) : ∀ (ty : Ty) (x : Value) (bs : Bytes),
    refWfTy ty = true → encTy c ty x = .ok bs → Ref.encTy c.e ty x = some bs :=
  fun ty x bs hw => (ref_all c hm).1 ty hw x bs

/-- the reference computes exactly the array table of the encoder model, and the table has the
    sizes, counts and element sizes the chunk encoder derives from the value -/
theorem wireArrs_ref (c : Cfg) (hm : c.mode = .ideal) (all : Items) (p : Enc Bytes) (pl : Nat) (v : Value) :
    ∀ (is : Items) (bs : Bytes), refWfItems all is = true → encItems c all p pl v is = .ok bs →
      Ref.arrays c.e is v = some (wireArrs c is v) ∧ ArrCorr is v (wireArrs c is v) :=
  fun is => ((ref_all c hm).2.1 is).1 all p pl v

theorem encItems_ref (c : Cfg) (hm : c.mode = .ideal) (all : Items) (p : Bytes) (v : Value) (arrs : List ArrInfo)
    (hcorr : ArrCorr all v arrs) (hnd : (arrs.map (·.id)).Nodup) :
    ∀ (is : Items) (bs : Bytes), refWfItems all is = true → (∀ a ∈ wireArrs c is v, a ∈ arrs) →
      encItems c all (.ok p) p.length v is = .ok bs → Ref.encItems c.e arrs p v is = some bs :=
  fun is => ((ref_all c hm).2.1 is).2 all p v arrs hcorr hnd

/-- one level: the field list of a packet, struct or ancestor around the octets `p` of its payload -/
theorem level_ref (c : Cfg) (hm : c.mode = .ideal) (items : Items) (p : Bytes) (v : Value) (bs : Bytes)
    (hw : refWfItems items items = true) (hnd : (arrayIds items).Nodup)
    (he : encItems c items (.ok p) p.length v items = .ok bs) :
    ∃ arrs, Ref.arrays c.e items v = some arrs ∧ Ref.encItems c.e arrs p v items = some bs := by
  obtain ⟨h1, h2⟩ := wireArrs_ref c hm items (.ok p) p.length v items bs hw he
  exact ⟨_, h1, encItems_ref c hm items p v _ h2 ((wireArrs_ids_sublist c v items).nodup hnd) items bs hw
    (fun a ha => ha) he⟩

/-- **The reference implementation writes the reference wire format.**  For every packet or
    struct without parent and every child of a packet without parent whose layout meets `refWfBody`
    (decidable; evaluated by the check on every generated layout), every value and both byte
    orders: whenever the encoder model in reference mode (`Mode.ideal`: the emitted encoder with
    every recorded deviation replaced by what doc/reference.md prescribes — the oracle the Python,
    C++ and Java back ends and the Rust decoder are compared with) produces bytes, they are exactly
    the bit-level reference encoding `Ref.encode`: bit-fields packed LSB-first into groups written
    in the file's byte order, size / count / element-size fields carrying the octet size (plus
    modifier), the count and the common element size of what they designate, reserved bits zero,
    padding zero, fixed and constrained fields at their constants, optional fields present iff the
    flag says so, the child in the parent's payload. -/
theorem encode_ideal_eq_ref (e : Endian) (b : Body) (hw : refWfBody b = true) (v : Value) (bs : Bytes)
    (he : encBody { e := e, mode := .ideal } b v = .ok bs) : Ref.encode e b v = some bs := by
  cases b with
  | root nm items =>
    exact (ref_all { e := e, mode := .ideal } rfl).2.2 _ (by rw [refWfTy]; exact hw) v bs he
  | derived nm parent cs allCs items =>
    cases parent with
    | derived _ _ _ _ _ => simp [refWfBody] at hw
    | root pn pitems =>
      simp only [refWfBody, Bool.and_eq_true, decide_eq_true_eq] at hw
      obtain ⟨⟨⟨⟨⟨⟨hwi, hli⟩, hndi⟩, hwp⟩, hlp⟩, hndp⟩, hpay⟩ := hw
      let c : Cfg := { e := e, mode := .ideal }
      -- the child's own bytes, then the parent's items around them
      obtain ⟨p, own, hp, hown, he⟩ := encBody_derived_ok c nm (.root pn pitems) cs allCs items v bs
        (by simp [lenWfBody, hli, hlp, Body.hasPayload, Body.items, hpay]) he
      simp only [Ref.encode, Ref.encBody, hp]
      rw [← withConstants]
      simp only [encAround] at he
      obtain ⟨arrs, ha, hr⟩ := level_ref c rfl items p _ own hwi hndi hown
      obtain ⟨parrs, hpa, hpr⟩ := level_ref c rfl pitems own _ bs hwp hndp he
      simp only [show Ref.arrays e items _ = _ from ha, show Ref.encItems e arrs p _ items = _ from hr,
        show Ref.arrays e pitems _ = _ from hpa]
      exact hpr

/-! non-vacuity: `packet P { a: 3, b: 13, _size_(x): 8, x: 16[], _payload_ }` meets `refWfBody` -/
example : refWfBody (.root "P" (.cons (.chunk [.scalar "a" 3, .scalar "b" 13, .size "x" 8 0])
    (.cons (.array "x" (.scalar 16) (.static 2) .sizeField none) (.cons (.payload .last) .nil)))) = true := by
  decide

/-! ### the model of the emitted encoder vs the reference mode

The emitted encoder deviates from the reference in two recorded ways only: array size modifiers
are ignored (KF-C03-array-size-modifier) and array elements of width 24/40/48/56 are written
without a range check (KF-C05-array-elem-trunc).  Away from array size modifiers, whenever the
reference mode produces bytes the model of the emitted code produces the same bytes. -/

/-- one field: away from array size modifiers the emitted code computes the reference's value, with fewer
    checks (the count of a 64-bit count field is not range checked) -/
theorem bfEnc_ideal_to_rust (all : Items) (pl : Nat) (v : Value) (f : BitField) (hn : bfNoArrayMod f = true) :
    OkLe (bfEnc true all pl v f) (bfEnc false all pl v f) := by
  cases f with
  | size t w m =>
    refine OkLe.of_eq ?_
    simp only [bfNoArrayMod, Bool.or_eq_true, beq_iff_eq] at hn
    rcases hn with (h | h) | h <;> simp [bfEnc, h]
  | count t w =>
    refine OkLe.bind OkLe.rfl fun vs _ a ha => ?_
    split at ha
    · cases ha
    · rename_i h; rw [if_neg fun h' => h ⟨Or.inl rfl, h'.2⟩]; exact ha
  | _ => exact OkLe.rfl

/-- **reference mode → emitted code, at every level of a layout**: away from array size modifiers whatever the
    reference mode writes the model of the emitted encoder writes.  Stated for a payload / inner encoding `p'` that
    succeeds wherever `p` does: the ancestors of an inheriting packet then need no case analysis on the outcome of
    the levels below them. -/
theorem ideal_to_rust_all (e : Endian) :
    (∀ ty, noModTy ty = true → ∀ x, OkLe (encTy { e := e, mode := .ideal } ty x) (encTy { e := e, mode := .rust } ty x)) ∧
    (∀ i, noModItem i = true → ∀ all p p' pl v, OkLe p p' →
      OkLe (encItem { e := e, mode := .ideal } all p pl v i) (encItem { e := e, mode := .rust } all p' pl v i)) ∧
    (∀ is, noModItems is = true → ∀ all p p' pl v, OkLe p p' →
      OkLe (encItems { e := e, mode := .ideal } all p pl v is) (encItems { e := e, mode := .rust } all p' pl v is)) ∧
    (∀ b, noModBody b = true →
      (∀ v, OkLe (encBody { e := e, mode := .ideal } b v) (encBody { e := e, mode := .rust } b v)) ∧
      (∀ v p p' len, OkLe p p' →
        OkLe (encAround { e := e, mode := .ideal } b v p len) (encAround { e := e, mode := .rust } b v p' len))) := by
  apply Layout.induction
  case scalar => exact fun w _ x bs he => encTy_scalar_of_ideal (c := { e := e, mode := .rust }) he
  case enumTy => exact fun _ _ _ _ => OkLe.rfl
  case custom => exact fun _ _ _ _ => OkLe.rfl
  case struct =>
    intro nm b ih hn x
    simp only [encTy]
    exact (ih hn).1 x
  case chunk =>
    exact fun fs hn all p p' pl v _ =>
      OkLe.bind (encChunkFields_eq false .. ▸ encChunkFields_okLe (bfEnc_ideal_to_rust all pl v) fs hn 0 0) fun _ _ => OkLe.rfl
  case typedef =>
    intro id ty sb ih hn all p p' pl v _ bs he
    obtain ⟨x, hx, h⟩ := encItem_typedef_ok_iff.mp he
    exact encItem_typedef_ok_iff.mpr ⟨x, hx, ih hn x bs h⟩
  case optional =>
    intro id ty ci cv ih hn all p p' pl v _ bs he
    cases hp : isPresent v id with
    | false => rw [encItem_optional_absent hp] at he ⊢; exact he
    | true =>
      obtain ⟨x, hx, hnn⟩ := isPresent_true_iff.mp hp
      rw [encItem_optional_present hx hnn] at he ⊢
      cases ty with
      | scalar w => exact he
      | _ => exact ih hn x bs he
  case payload => exact fun m _ all p p' pl v hp => hp
  case array =>
    intro id elem ew shape pad ih hn all p p' pl v _ bs he
    obtain ⟨vs, es, h1, h2, h3, h4, h5⟩ := encItem_array_ok_iff.mp he
    exact encItem_array_ok_iff.mpr ⟨vs, es, h1, h2, h3, encListWith_okLe (ih hn) vs es h4, h5⟩
  case nil => exact fun _ all p p' pl v _ => OkLe.rfl
  case cons =>
    intro i r ihi ihr hn all p p' pl v hp
    simp only [noModItems, Bool.and_eq_true] at hn
    exact OkLe.bind (ihi hn.1 all p p' pl v hp) fun _ _ => OkLe.bind (ihr hn.2 all p p' pl v hp) fun _ _ => OkLe.rfl
  case root =>
    intro nm items ih hn
    refine ⟨fun v => ?_, fun v p p' len hp => ih hn items p p' len v hp⟩
    simp only [encBody]
    split
    · exact fun _ h => h
    · exact ih hn items _ _ _ v OkLe.rfl
  case derived =>
    intro nm parent cs allCs items ihp ih hn
    simp only [noModBody, Bool.and_eq_true] at hn
    refine ⟨fun v => ?_, fun v p p' len hp => ?_⟩
    · simp only [encBody]
      split
      · exact fun _ h => h
      · exact (ihp hn.2).2 _ _ _ _ (ih hn.1 items _ _ _ _ OkLe.rfl)
    · simp only [encAround]
      exact (ihp hn.2).2 v _ _ _ (ih hn.1 items p p' len v hp)

theorem encTy_ideal_to_rust (e : Endian) : ∀ (ty : Ty) (x : Value) (bs : Bytes), noModTy ty = true →
    encTy { e := e, mode := .ideal } ty x = .ok bs → encTy { e := e, mode := .rust } ty x = .ok bs :=
  fun ty x bs hn => (ideal_to_rust_all e).1 ty hn x bs

theorem encItem_ideal_to_rust (e : Endian) (all : Items) (p : Enc Bytes) (pl : Nat) (v : Value) :
    ∀ (i : Item) (bs : Bytes), noModItem i = true →
      encItem { e := e, mode := .ideal } all p pl v i = .ok bs → encItem { e := e, mode := .rust } all p pl v i = .ok bs :=
  fun i bs hn => (ideal_to_rust_all e).2.1 i hn all p p pl v OkLe.rfl bs

theorem encItems_ideal_to_rust (e : Endian) (all : Items) (p : Enc Bytes) (pl : Nat) (v : Value) :
    ∀ (is : Items) (bs : Bytes), noModItems is = true →
      encItems { e := e, mode := .ideal } all p pl v is = .ok bs → encItems { e := e, mode := .rust } all p pl v is = .ok bs :=
  fun is bs hn => (ideal_to_rust_all e).2.2.1 is hn all p p pl v OkLe.rfl bs

theorem encAround_ideal_to_rust (e : Endian) : ∀ (b : Body) (v : Value) (inner : Enc Bytes) (len : Nat) (bs : Bytes),
    noModBody b = true → encAround { e := e, mode := .ideal } b v inner len = .ok bs →
      encAround { e := e, mode := .rust } b v inner len = .ok bs :=
  fun b v inner len bs hn => ((ideal_to_rust_all e).2.2.2 b hn).2 v inner inner len OkLe.rfl bs

/-- if the ancestors produce bytes although the inner encoding failed, the inner encoding is not
    used at all (no payload item up the chain) -/
theorem encAround_inner_irrelevant (e : Endian) : ∀ (b : Body) (v : Value) (inner inner' : Enc Bytes) (len : Nat) (bs : Bytes),
    noModBody b = true → inner.isOk = false → encAround { e := e, mode := .ideal } b v inner len = .ok bs →
      encAround { e := e, mode := .rust } b v inner' len = .ok bs :=
  fun b v inner inner' len bs hn hbad =>
    ((ideal_to_rust_all e).2.2.2 b hn).2 v inner inner' len (fun ib h => by rw [h] at hbad; cases hbad) bs

theorem encBody_ideal_to_rust (e : Endian) : ∀ (b : Body) (v : Value) (bs : Bytes), noModBody b = true →
    encBody { e := e, mode := .ideal } b v = .ok bs → encBody { e := e, mode := .rust } b v = .ok bs :=
  fun b v bs hn => ((ideal_to_rust_all e).2.2.2 b hn).1 v bs

/-- **C03.**  Away from array size modifiers (which the Rust back end ignores: recorded finding
    KF-C03-array-size-modifier), for every layout meeting `refWfBody`, both byte orders, and every
    value to which the reference assigns an encoding through the reference mode (`hid`): the model
    of the emitted Rust encoder succeeds and writes exactly `Ref.encode` — the wire format of
    doc/reference.md at bit level. -/
theorem encode_rust_eq_ref (e : Endian) (b : Body) (hw : refWfBody b = true) (hn : noModBody b = true)
    (v : Value) (bs : Bytes) (hid : encBody { e := e, mode := .ideal } b v = .ok bs) :
    encBody { e := e, mode := .rust } b v = .ok bs ∧ Ref.encode e b v = some bs :=
  ⟨encBody_ideal_to_rust e b v bs hn hid, encode_ideal_eq_ref e b hw v bs hid⟩

/-- and whatever else the emitted encoder writes for such a value, it is not a different
    encoding: encoding is a function -/
theorem encode_rust_unique (e : Endian) (b : Body) (hw : refWfBody b = true) (hn : noModBody b = true)
    (v : Value) (bs bs' : Bytes) (hid : encBody { e := e, mode := .ideal } b v = .ok bs)
    (hr : encBody { e := e, mode := .rust } b v = .ok bs') : Ref.encode e b v = some bs' := by
  obtain ⟨h1, h2⟩ := encode_rust_eq_ref e b hw hn v bs hid
  rw [h1] at hr
  simp only [Outcome.ok.injEq] at hr
  rw [← hr]; exact h2

end Pdlv
