/-
  C08 — the analyzer rejects every ill-formed description with a diagnostic carrying the
  rule's code.

  Statements about the model `Pdlv.Analyzer.analyze` (pass by pass as in analyzer.rs), which is
  compared with the real analyzer on every run: verdict, ordered code list and label ranges.
  The numeric rules are stated against arithmetic (2^w), not against the implementation's
  bit tricks (`bit_width`, `leading_zeros`, `1 << width`).
-/
import Pdlv.Lemmas.Analyze

namespace Pdlv
namespace Analyzer

/-- `bit_width(v) > w` is exactly `v ≥ 2^w` — for every w, including 0 and 64 -/
theorem bitWidth_gt_iff (v w : Nat) : bitWidth v > w ↔ v ≥ 2 ^ w := by
  unfold bitWidth
  by_cases hv : v = 0
  · have : 0 < 2 ^ w := Nat.two_pow_pos w
    simp [hv]
  · rw [if_neg hv, ge_iff_le, ← Nat.le_log2 hv]; omega

/-- `scalar_max(w)` is `2^w - 1` below 64 bits: a value is in range iff it is below `2^w` -/
theorem le_scalarMax_iff (v w : Nat) (hw : w < 64) : v ≤ scalarMax w ↔ v < 2 ^ w := by
  unfold scalarMax
  have : ¬ 64 ≤ w := by omega
  simp only [this, ↓reduceIte]
  have : 0 < 2 ^ w := Nat.two_pow_pos w
  omega

/-- **E32 (FixedValueOutOfRange)**: a fixed scalar field is reported iff its value does not fit
    its width — `_fixed_ = 2^w : w` is rejected, `_fixed_ = 2^w - 1 : w` is not -/
theorem fixed_value_rule (fl : Field) (w v : Nat) (hfl : fl.desc = .fixedScalar w v) :
    (match fl.desc with
      | .fixedScalar w v => if bitWidth v > w then [mkD 32 [fl.loc]] else []
      | _ => []) = (if v ≥ 2 ^ w then [mkD 32 [fl.loc]] else []) := by
  rw [hfl]
  simp only [bitWidth_gt_iff]

/-- **E18 (ConstraintValueOutOfRange)**: a scalar constraint is reported iff the value does not
    fit the constrained field's width -/
theorem constraint_value_rule (f : File) (c : Constraint) (decl : Decl) (fl : Field) (id : String) (w v : Nat)
    (hfind : (iterFields f (f.decls.length + 1) decl).find? (fun g => g.id? == some c.id) = some fl)
    (hfl : fl.desc = .scalar id w) (hv : c.value = some v) :
    checkConstraint f c decl = (if v ≥ 2 ^ w then ([mkD 18 [c.loc, fl.loc]], none) else ([], none)) := by
  unfold checkConstraint
  rw [hfind]
  simp only [hfl, hv, bitWidth_gt_iff]

/-- **E15**: a constraint on an identifier that no field of the declaration or of its ancestors
    carries is reported as undeclared -/
theorem constraint_undeclared_rule (f : File) (c : Constraint) (decl : Decl)
    (h : (iterFields f (f.decls.length + 1) decl).find? (fun g => g.id? == some c.id) = none) :
    checkConstraint f c decl = ([mkD 15 [c.loc]], none) := by
  unfold checkConstraint; rw [h]

/-- **E14 (InvalidTagValue)**: a tag value outside `lo..hi` is reported -/
theorem tag_value_rule (t : TagV) (lo hi : Nat) (st : EnumSt) (h : ¬ (lo ≤ t.value ∧ t.value ≤ hi)) :
    ∃ d ∈ (checkTagValue t lo hi [] st).diags, d.code = 14 := by
  unfold checkTagValue
  simp only [List.foldl_nil, h, ↓reduceIte]
  refine ⟨mkD 14 [t.loc], ?_, rfl⟩
  simp

/-- **No ill-formed description reaches a back end**: when `analyze` returns a file, the scope pass reported
    nothing on the source file, nor did the seven per-declaration passes on the sorted file
    (`analyze_ok_iff` has the whole pipeline). -/
theorem analyze_ok_first_passes (f f' : File) (h : analyze f = .ok f') :
    scopeDiags f = [] ∧ ∃ g, checkDeclIdentifiers f = .ok g ∧ checkFieldIdentifiers g = [] ∧
      checkEnumDeclarations g = [] ∧ checkSizeFields g = [] ∧ checkFixedFields g = [] ∧
      checkPayloadFields g = [] ∧ checkArrayFields g = [] ∧ checkPaddingFields g = [] := by
  obtain ⟨h0, g, hg, h1, h2, h3, h4, h5, h6, h7, _⟩ := (analyze_ok_iff f f').mp h
  exact ⟨h0, g, hg, h1, h2, h3, h4, h5, h6, h7⟩

/-- two declarations with the same identifier are reported (E1); for a file of any length see
    `scope_ok_iff_nodup` (C09) -/
theorem duplicate_decl_reported (d1 d2 : Decl) (id : String) (e : Endian)
    (h1 : d1.id? = some id) (h2 : d2.id? = some id) :
    ∃ x ∈ scopeDiags { endian := e, decls := [d1, d2] }, x.code = 1 := by
  refine ⟨mkD 1 [d2.loc, d1.loc], ?_, rfl⟩
  simp [scopeDiags, scopeDiags.go, h1, h2, List.lookup]

/-! ### accepted ⇒ the rule holds: one declarative statement per pass (the contrapositive of "rejected with the rule's code") -/

/-- **E32 – E35.**  If the fixed-field pass reports nothing, every `_fixed_ = v : w` has `v < 2^w`, and every
    `_fixed_ = TAG : Enum` names a declared enum that has that tag -/
theorem fixed_fields_ok (f : File) (h : checkFixedFields f = []) (d : Decl) (hd : d ∈ f.decls) (fl : Field)
    (hfl : fl ∈ d.fields) :
    (∀ w v, fl.desc = .fixedScalar w v → v < 2 ^ w) ∧
    (∀ en tag, fl.desc = .fixedEnum en tag → ∃ e id tags w, lookupDecl f en = some e ∧ e.desc = .enum id tags w ∧
      tags.any (·.id == tag) = true) := by
  have h2 := List.flatMap_eq_nil_iff.mp (perDecl_eq_nil_iff.mp h d hd) fl hfl
  constructor
  · intro w v hdesc
    simpa [hdesc, bitWidth_gt_iff] using h2
  · intro en tag hdesc
    simp only [hdesc] at h2
    cases hl : lookupDecl f en with
    | none => simp [hl] at h2
    | some e =>
      simp only [hl] at h2
      cases he : e.desc with
      | enum id tags w =>
        simp only [he] at h2
        by_cases ht : tags.any (·.id == tag) = true
        · exact ⟨e, id, tags, w, rfl, he, ht⟩
        · simp [ht] at h2
      | _ => simp [he] at h2

/-- the fields of a declaration in which every `_padding_` directly follows an array field -/
def paddingOk : Bool → List Field → Bool
  | _, [] => true
  | prevArr, fl :: fs =>
    match fl.desc with
    | .padding _ => prevArr && paddingOk false fs
    | .array .. => paddingOk true fs
    | _ => paddingOk false fs

theorem padding_go_ok (fs : List Field) (prevArr : Bool) (h : checkPaddingFields.go prevArr fs = []) :
    paddingOk prevArr fs = true := by
  induction fs generalizing prevArr with
  | nil => rfl
  | cons fl fs ih =>
    simp only [checkPaddingFields.go] at h
    simp only [paddingOk]
    cases hdesc : fl.desc with
    | padding n =>
      simp only [hdesc, List.append_eq_nil_iff] at h
      cases prevArr with
      | false => simp at h
      | true => simpa using ih false h.2
    | array a b c d e =>
      simp only [hdesc] at h
      exact ih true h
    | _ =>
      simp only [hdesc] at h
      exact ih false h

/-- **E39.**  If the padding pass reports nothing, in every declaration every `_padding_` field directly
    follows an array field (so never another `_padding_`, never the first field) -/
theorem padding_fields_ok (f : File) (h : checkPaddingFields f = []) (d : Decl) (hd : d ∈ f.decls) :
    paddingOk false d.fields = true :=
  padding_go_ok d.fields false (perDecl_eq_nil_iff.mp h d hd)

def payloadCount (fs : List Field) : Nat := (fs.filter isPayloadField).length

theorem payload_go_ok (fs : List Field) (prev : Option Field) (h : (checkPayloadFields.go prev fs).1 = []) :
    payloadCount fs + (if prev.isSome then 1 else 0) ≤ 1 := by
  induction fs generalizing prev with
  | nil => cases prev <;> simp [payloadCount]
  | cons fl fs ih =>
    simp only [checkPayloadFields.go] at h
    by_cases hp : isPayloadField fl = true
    · simp only [hp, ↓reduceIte] at h
      cases prev with
      | some p => simp at h
      | none =>
        simpa [payloadCount, List.filter, hp] using ih (some fl) h
    · have hp' : isPayloadField fl = false := by simpa using hp
      simp only [hp', Bool.false_eq_true, ↓reduceIte] at h
      simpa [payloadCount, List.filter, hp'] using ih prev h

/-- **E36.**  If the payload pass reports nothing, no declaration has two `_payload_` / `_body_` fields -/
theorem payload_fields_ok (f : File) (h : checkPayloadFields f = []) (d : Decl) (hd : d ∈ f.decls) :
    payloadCount d.fields ≤ 1 := by
  have h1 := perDecl_eq_nil_iff.mp h d hd
  simp only [List.append_eq_nil_iff] at h1
  simpa using payload_go_ok d.fields none h1.1

/-- **E11.**  If the field-identifier pass reports nothing, the named fields of every declaration have
    distinct identifiers -/
theorem field_identifiers_ok (f : File) (h : checkFieldIdentifiers f = []) (d : Decl) (hd : d ∈ f.decls) :
    (fieldIds d.fields).Nodup :=
  ((fieldIdGo_nil_iff [] d.fields).mp (perDecl_eq_nil_iff.mp h d hd)).1

/-- **E38.**  If the array pass reports nothing, no array with a constant count also has a size or count field -/
theorem array_fields_ok (f : File) (h : checkArrayFields f = []) (d : Decl) (hd : d ∈ f.decls) (fl : Field)
    (hfl : fl ∈ d.fields) (id : String) (w : Option Nat) (t m : Option String) (n : Nat)
    (hdesc : fl.desc = .array id w t m (some n)) :
    ∀ g ∈ d.fields, (∀ t' w', g.desc = .size t' w' → t' ≠ id) ∧ (∀ t' w', g.desc = .count t' w' → t' ≠ id) := by
  have h2 := List.flatMap_eq_nil_iff.mp (perDecl_eq_nil_iff.mp h d hd) fl hfl
  simp only [hdesc] at h2
  split at h2
  · cases h2
  · rename_i hfind
    rw [List.find?_eq_none] at hfind
    intro g hg
    have := hfind g hg
    constructor
    · intro t' w' hgd; simp only [hgd] at this; simpa using this
    · intro t' w' hgd; simp only [hgd] at this; simpa using this

/-- what the size pass demands of one field: the target of a size field exists and is the payload / body or an
    array; the target of a count or element-size field exists and is an array -/
def sizeTargetOk (d : Decl) (fl : Field) : Prop :=
  (∀ t w, fl.desc = .size t w → ∃ g, findSizeTarget d t = some g ∧
      (g.desc = .body ∨ (∃ m, g.desc = .payload m) ∨ ∃ a b c e k, g.desc = .array a b c e k)) ∧
  (∀ t w, fl.desc = .count t w → ∃ g, d.fields.find? (fun g => g.id? == some t) = some g ∧
      ∃ a b c e k, g.desc = .array a b c e k) ∧
  (∀ t w, fl.desc = .elementSize t w → ∃ g, d.fields.find? (fun g => g.id? == some t) = some g ∧
      ∃ a b c e k, g.desc = .array a b c e k)

theorem size_go_ok (d : Decl) : ∀ (fs : List Field) (sizeFor esizeFor : List (String × Field)),
    checkSizeFields.go d sizeFor esizeFor fs = [] → ∀ fl ∈ fs, sizeTargetOk d fl := by
  intro fs
  induction fs with
  | nil => intro _ _ _ fl hfl; cases hfl
  | cons f0 fs ih =>
    intro sizeFor esizeFor h fl hfl
    simp only [checkSizeFields.go, List.append_eq_nil_iff] at h
    obtain ⟨⟨_, hinv⟩, hrest⟩ := h
    rcases List.mem_cons.mp hfl with rfl | hfl'
    · refine ⟨?_, ?_, ?_⟩
      · intro t w hdesc
        simp only [hdesc] at hinv
        cases hft : findSizeTarget d t with
        | none => simp [hft] at hinv
        | some g =>
          simp only [hft] at hinv
          refine ⟨g, rfl, ?_⟩
          -- the arms of the pass's own `match g.desc`: body, payload, array, anything else (reported)
          split at hinv
          · exact Or.inl ‹_›
          · exact Or.inr (Or.inl ⟨_, ‹_›⟩)
          · exact Or.inr (Or.inr ⟨_, _, _, _, _, ‹_›⟩)
          · cases hinv
      -- count and element-size fields: the same arm of the pass, with another code
      all_goals
        intro t w hdesc
        simp only [hdesc] at hinv
        cases hft : d.fields.find? (fun g => g.id? == some t) with
        | none => simp [hft] at hinv
        | some g =>
          simp only [hft] at hinv
          refine ⟨g, rfl, ?_⟩
          split at hinv
          · exact ⟨_, _, _, _, _, ‹_›⟩
          · cases hinv
    · exact ih _ _ hrest fl hfl'

/-- **E24, E25, E27, E28, E30, E31.**  If the size pass reports nothing, every size / count / element-size field
    of every declaration designates a field of that declaration of the right kind -/
theorem size_fields_ok (f : File) (h : checkSizeFields f = []) (d : Decl) (hd : d ∈ f.decls) (fl : Field)
    (hfl : fl ∈ d.fields) : sizeTargetOk d fl :=
  size_go_ok d d.fields [] [] (perDecl_eq_nil_iff.mp h d hd) fl hfl

/-- **No description violating E11, E32–E36, E38 or E39 reaches a back end**: whenever `analyze` returns a file, the
    declarations it analyzed (`g`: the source declarations in dependency order) satisfy those rules as stated
    declaratively above — for every declaration and every field, at every position -/
theorem analyze_ok_rules (f f' : File) (h : analyze f = .ok f') :
    ∃ g, checkDeclIdentifiers f = .ok g ∧ ∀ d ∈ g.decls,
      (fieldIds d.fields).Nodup ∧ paddingOk false d.fields = true ∧ payloadCount d.fields ≤ 1 ∧
      ∀ fl ∈ d.fields, (∀ w v, fl.desc = .fixedScalar w v → v < 2 ^ w) ∧
        (∀ en tag, fl.desc = .fixedEnum en tag → ∃ e id tags w, lookupDecl g en = some e ∧ e.desc = .enum id tags w ∧
          tags.any (·.id == tag) = true) ∧
        (∀ id w t m n, fl.desc = .array id w t m (some n) →
          ∀ s ∈ d.fields, (∀ t' w', s.desc = .size t' w' → t' ≠ id) ∧ (∀ t' w', s.desc = .count t' w' → t' ≠ id)) := by
  obtain ⟨_, g, hg, hfid, _, _, hfix, hpay, harr, hpad⟩ := analyze_ok_first_passes f f' h
  exact ⟨g, hg, fun d hd => ⟨field_identifiers_ok g hfid d hd, padding_fields_ok g hpad d hd, payload_fields_ok g hpay d hd,
    fun fl hfl => ⟨(fixed_fields_ok g hfix d hd fl hfl).1, (fixed_fields_ok g hfix d hd fl hfl).2,
      fun id w t m n hdesc => array_fields_ok g harr d hd fl hfl id w t m n hdesc⟩⟩⟩

/-! non-vacuity: two consecutive `_padding_` fields after an array are not `paddingOk`, one is -/
example : paddingOk false [{ desc := .array "x" (some 8) none none none, loc := default },
    { desc := .padding 4, loc := default }, { desc := .padding 4, loc := default }] = false := by rfl
example : paddingOk false [{ desc := .array "x" (some 8) none none none, loc := default },
    { desc := .padding 4, loc := default }] = true := by rfl

/-! ### non-vacuity: the boundary cases evaluate as stated -/
example : bitWidth 256 > 8 ∧ ¬ bitWidth 255 > 8 := by decide
example : bitWidth (2 ^ 63) > 63 ∧ ¬ bitWidth (2 ^ 63 - 1) > 63 := by
  constructor
  · exact (bitWidth_gt_iff _ _).mpr (by omega)
  · intro h; have := (bitWidth_gt_iff _ _).mp h; omega

end Analyzer
end Pdlv
