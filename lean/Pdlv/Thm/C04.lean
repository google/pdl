/-
  C04 — the Rust decoder accepts exactly the reference language and names each fault.

  Fault-classification theorems over the decoder model (`Pdlv.decBody`), one per DecodeError variant; then
  `decode_exact`: on the slack-free class `exactWfBody` whatever the decoder accepts is the reference-mode
  encoding of the value it returns (hence `Ref.encode`, by C03), and `decode_full_iff` on the intersection
  with the round-trippable class.  Outside the class `bin/check C04` compares acceptance and re-encoding per run.
-/
import Pdlv.Wire
import Pdlv.Lemmas.Exact
import Pdlv.Thm.C02

namespace Pdlv

/-- **truncated** — a bit-field group that is cut short is a `LengthError`, never a read -/
theorem truncated_chunk_is_length_error (e : Endian) (ideal : Bool) (fs : List BitField) (bs : Bytes)
    (st : DState) (h : bs.length < chunkBits fs / 8) :
    decChunk e ideal fs bs st = .err .length := by
  rw [decChunk_eq, if_pos h]

/-- **fixed field flipped** — a fixed field whose bits differ from its constant is a
    `FixedValueError`, wherever it stands in its group -/
theorem fixed_mismatch_is_fixed_value_error (ideal : Bool) (w c shift chunk : Nat) (fs : List BitField)
    (st : DState) (h : (chunk / 2 ^ shift) % 2 ^ w ≠ c) :
    decChunkFields ideal (.fixed w c :: fs) shift chunk st = .err .fixedValue :=
  (decChunkFields_err_iff ..).mpr (by simp [chunkReject, BitField.reject, BitField.width, h])

/-- **undeclared enum value** — a value the enum does not declare (closed enum) is an
    `EnumValueError` -/
theorem undeclared_enum_is_enum_value_error (ideal : Bool) (id ty : String) (en : Enum.Decl)
    (shift chunk : Nat) (fs : List BitField) (st : DState)
    (h : Enum.spec en ((chunk / 2 ^ shift) % 2 ^ en.width) = .err) :
    decChunkFields ideal (.enumTy id ty en :: fs) shift chunk st = .err .enumValue :=
  (decChunkFields_err_iff ..).mpr (by simp [chunkReject, BitField.reject, BitField.width, enumOk, h])

/-- … and a declared one is accepted and bound -/
theorem declared_enum_is_accepted (ideal : Bool) (id ty : String) (en : Enum.Decl)
    (shift chunk : Nat) (fs : List BitField) (st : DState)
    (h : Enum.spec en ((chunk / 2 ^ shift) % 2 ^ en.width) ≠ .err) :
    decChunkFields ideal (.enumTy id ty en :: fs) shift chunk st =
      decChunkFields ideal fs (shift + en.width) chunk
        { st with ctx := (.val id, (chunk / 2 ^ shift) % 2 ^ en.width) :: st.ctx,
                  fields := st.fields ++ [(id, .int ((chunk / 2 ^ shift) % 2 ^ en.width))] } := by
  rw [decChunkFields_cons]
  simp [BitField.reject, BitField.binds, BitField.yields, DState.extend, BitField.width, enumOk, h]

/-- **extended** — bytes left over after a successful decode are a `TrailingBytesError` -/
theorem extra_bytes_is_trailing_bytes_error (c : Cfg) (b : Body) (bs : Bytes) (v : Value) (r : Bytes)
    (h : decBody c b bs = .ok (v, r)) (hr : r ≠ []) : decodeFull c b bs = .err .trailingBytes := by
  cases r with
  | nil => exact absurd rfl hr
  | cons x xs => unfold decodeFull; rw [h]; rfl

/-- and an exactly consumed input is accepted with decode's value -/
theorem exact_input_is_accepted (c : Cfg) (b : Body) (bs : Bytes) (v : Value)
    (h : decBody c b bs = .ok (v, [])) : decodeFull c b bs = .ok v :=
  decodeFull_ok_iff.mpr h

/-- the payload size minus its modifier must not go below zero: `LengthError` -/
theorem payload_size_below_modifier (c : Cfg) (m sz : Nat) (bs : Bytes) (st : DState)
    (hs : st.ctx.get (.size "_payload_") = some sz) (h : sz < m) :
    decItem c (.payload (.sized m)) bs st = .err .length := by
  simp [decItem, hs, h]

/-- a size-delimited payload that claims more than remains: `LengthError` -/
theorem payload_size_beyond_input (c : Cfg) (m sz : Nat) (bs : Bytes) (st : DState)
    (hs : st.ctx.get (.size "_payload_") = some sz) (hm : m ≤ sz) (h : bs.length < sz - m) :
    decItem c (.payload (.sized m)) bs st = .err .length := by
  have : ¬ sz < m := Nat.not_lt.mpr hm
  simp [decItem, hs, this, h]

/-- non-vacuity: on `packet P { _fixed_ = 7 : 8 }` the byte 08 is a FixedValueError -/
example : decBody { e := .little } (.root "P" (.cons (.chunk [.fixed 8 7]) .nil)) [8] = .err .fixedValue := by rfl

/-! ### the decoder accepts nothing but reference encodings (slack-free class) -/

/-- a decoded field value is never the absent value -/
theorem decTy_not_null (c : Cfg) (ty : Ty) (hw : exactWfTy ty = true) (bs : Bytes) (x : Value) (r : Bytes)
    (h : decTy c ty bs = .ok (x, r)) : x ≠ .null := by
  cases ty with
  | scalar w => obtain ⟨n, _, rfl⟩ := decTy_scalar_ok_iff.mp h; nofun
  | enumTy nm en => obtain ⟨n, _, _, rfl⟩ := decTy_enumTy_ok_iff.mp h; nofun
  | custom nm w => obtain ⟨n, _, rfl⟩ := decTy_custom_ok_iff.mp h; nofun
  | struct nm b =>
    cases b with
    | root nm' items =>
      obtain ⟨_, _, rfl⟩ := (decBody_root_ok_iff (nm := nm')).mp h
      nofun
    | derived a b c d e => simp [exactWfTy] at hw

/-- `st1` is the state after the item, of whose entries consumed by the later items `r` the facts `hfacts` are
    known; the encoder writes the octets the item consumed, and the entries the item itself consumed are what
    the encoder recomputes -/
theorem item_exact (ce cd : Cfg) (hce : ce.mode = .ideal) (hee : ce.e = cd.e) (all : Items) (p : Bytes) (v : Value)
    (hnd : (arrayIds all).Nodup) (i : Item) (r : Items)
    (hty : ∀ ty, i.ty? = some ty → ElemExact (encTy ce ty) (decTy cd ty))
    (bs b1 : Bytes) (st st1 : DState) (hwi : exactWfItem r i = true) (hkb : (keysBound (.cons i r)).Nodup)
    (harr : ∀ t ∈ arrayItems (.cons i r), t ∈ arrayItems all)
    (hpm : ∀ md ∈ payloadModes (.cons i r), payloadMode all = some md)
    (h1 : decItem cd i bs st = .ok (st1, b1))
    (hag1 : ∀ id x, (id, x) ∈ st1.fields → v.get? id = some x)
    (hpay : i.isPayload = true → ∀ p', st1.payload = some p' → p' = p)
    (hfacts : ∀ k y, st1.ctx.get k = some y → k ∉ keysBound r → consumes r k = true → Fact all r p.length v k y) :
    (∃ es1, encItem ce all (.ok p) p.length v i = .ok es1 ∧ bs = es1 ++ b1) ∧
    (∀ k y, st.ctx.get k = some y → k ∉ keysBound (.cons i r) → consumes (.cons i r) k = true →
      Fact all (.cons i r) p.length v k y) := by
  cases i with
  | optional id ty cid cval =>
    simp only [exactWfItem] at hwi
    obtain ⟨cv, hcv, hcase⟩ := decItem_optional_ok h1
    have hctx1 : st1.ctx = st.ctx := by
      rcases hcase with ⟨_, x, _, rfl⟩ | ⟨_, _, rfl⟩ <;> rfl
    have hpres : isPresent v id = true ↔ cv = cval := by
      rcases hcase with ⟨hc, x, hx, rfl⟩ | ⟨hc, _, rfl⟩
      · have hget : v.get? id = some x := hag1 id x (by simp)
        have hnn := decTy_not_null cd ty hwi bs x b1 hx
        exact ⟨fun _ => hc, fun _ => isPresent_true_iff.mpr ⟨x, hget, hnn⟩⟩
      · have hget : v.get? id = some .null := hag1 id .null (by simp)
        refine ⟨fun h => ?_, fun h => absurd h hc⟩
        simp [isPresent, hget] at h
    refine ⟨?_, ?_⟩
    · rcases hcase with ⟨hc, x, hx, rfl⟩ | ⟨hc, hb, rfl⟩
      · obtain ⟨es1, q1, q2⟩ := hty ty rfl bs x b1 hx
        have hget : v.get? id = some x := hag1 id x (by simp)
        exact ⟨es1, by rw [encItem_optional_ideal hce hget (decTy_not_null cd ty hwi bs x b1 hx)]; exact q1, q2⟩
      · exact ⟨[], encItem_optional_absent (Bool.eq_false_iff.mpr (mt hpres.mp hc)), hb.symm⟩
    · intro k y hy hnk hc
      have hf := hfacts k y (by rw [hctx1]; exact hy) hnk hc
      cases k with
      | val k' =>
        simp only [Fact, optItems, List.mem_cons, Prod.mk.injEq] at hf ⊢
        intro oid cv' hm
        rcases hm with ⟨rfl, rfl, rfl⟩ | hm
        · obtain rfl : cv = y := Option.some.inj (hcv ▸ hy)
          exact hpres
        · exact hf oid cv' hm
      | _ => exact hf
  | chunk fs =>
    simp only [exactWfItem, Bool.and_eq_true, beq_iff_eq, List.all_eq_true] at hwi
    obtain ⟨hbits, hbf⟩ := hwi
    simp only [keysBound, List.nodup_append] at hkb
    obtain ⟨hndc, _, hdisj⟩ := hkb
    obtain ⟨hlen, rfl, hc1'⟩ := decChunk_ok_iff.mp h1
    -- no key is bound twice (`hdisj`): what this chunk binds, `r` does not bind again, so `hfacts` speaks of it
    have hfact1 : ∀ k ∈ chunkKeys fs, ∀ y, st1.ctx.get k = some y → Fact all r p.length v k y := by
      intro k hk y hy
      exact hfacts k y hy (fun hkr => hdisj k hk k hkr rfl) (bfExact_consumes r fs k hbf hk)
    have hce' := chunk_exact (cd.mode == .ideal) all r p.length v
      (fun md h => hpm md (payloadMode_mem r md h)) fs 0 _ 0 st st1 hbf hndc hc1' hag1 hfact1
    obtain ⟨hlt, hput⟩ := rdInt_exact cd.e (chunkBits fs) hbits bs hlen
    simp only [Nat.pow_zero, Nat.div_one, Nat.mul_one, Nat.zero_add, Nat.mod_eq_of_lt hlt] at hce'
    refine ⟨⟨bs.take (chunkBits fs / 8), ?_, (List.take_append_drop _ _).symm⟩, ?_⟩
    · exact encItem_chunk_ok_iff.mpr ⟨_, by rw [hce]; exact hce', by rw [hee, hput]⟩
    · intro k y hy hnk hc
      simp only [keysBound, List.mem_append, not_or] at hnk
      have hmono := (decChunkFields_frame hc1').1.get k hnk.1
      exact hfacts k y (by rw [hmono]; exact hy) hnk.2 hc
  | typedef id ty sb =>
    simp only [exactWfItem] at hwi
    obtain ⟨x, hx, rfl⟩ := decItem_typedef_ok_iff.mp h1
    obtain ⟨es1, q1, q2⟩ := hty ty rfl bs x b1 hx
    have hget : v.get? id = some x := hag1 id x (by simp)
    exact ⟨⟨es1, encItem_typedef_ok_iff.mpr ⟨x, hget, q1⟩, q2⟩, hfacts⟩
  | payload mode =>
    obtain ⟨p', rfl, hbs, hsz⟩ := decItem_payload_ok h1
    have hpp : p' = p := hpay rfl p' rfl
    subst hpp
    refine ⟨⟨p', encPayload_verbatim .., hbs⟩, ?_⟩
    intro k y hy hnk hc
    by_cases hown : k = .size "_payload_"
    · subst hown
      simp only [consumes, BEq.rfl, ↓reduceIte, payloadMode] at hc
      cases mode with
      | sized m =>
        obtain ⟨sz, hsz1, hsz2⟩ := hsz m rfl
        obtain rfl : sz = y := Option.some.inj (hsz1 ▸ hy)
        refine ⟨fun _ m' hm' => ?_, fun hne => absurd rfl hne⟩
        obtain rfl : m = m' := PayloadMode.sized.inj (Option.some.inj ((hpm _ (by simp [payloadModes])).symm.trans hm'))
        exact hsz2
      | _ => simp at hc
    · have hc' := (consumes_cons_of_ne (.payload mode) r k nofun fun _ _ => hown).symm.trans hc
      cases k <;> exact hfacts _ y hy hnk hc'
  | array id elem ew shape pad =>
    simp only [exactWfItem, Bool.and_eq_true, Option.isNone_iff_eq_none, bne_iff_ne, ne_eq] at hwi
    obtain ⟨⟨⟨⟨⟨hpad, hwt⟩, hlw⟩, hidp⟩, hidb⟩, hew⟩ := hwi
    subst hpad
    obtain ⟨_, vs, hda, rfl⟩ := decItem_array_ok_iff.mp h1
    replace hda : decArray cd.mode (decTy cd elem) ew shape (st.ctx.get (.count id)) (st.ctx.get (.size id))
        (st.ctx.get (.esize id)) bs = .ok (vs, b1) := hda
    have hget : v.get? id = some (.arr vs) := hag1 id _ (by simp)
    have hnotdyn : ew ≠ .dynamic := by
      intro h; subst h; simp at hew
    obtain ⟨es1, q1, q2, qn, qc, qs⟩ := array_exact cd.mode (encTy ce elem) (decTy cd elem)
      (hty elem rfl) ew shape _ _ _ bs vs b1 hnotdyn
      (fun w hs x b hx => by
        subst hs
        exact encTy_static ce elem x b w (by simpa using hew) hx) hda
    have hlen : es1.length = sumLen (lenTy elem) vs :=
      encListWith_length (encTy ce elem) (lenTy elem) (fun x b hx => encTy_len ce elem x b hlw hx) vs es1 q1
    refine ⟨⟨es1, ?_, q2⟩, ?_⟩
    · exact encItem_array_ok_iff.mpr ⟨vs, es1, hget, qn, nofun, q1, rfl⟩
    -- a key of this array (its count, its size) is consumed here, with the figure `array_exact` returns;
    -- any other key is consumed by the later items: forward to `hfacts`
    · intro k y hy hnk hc
      have hfa := firstArray_of_mem all id elem ew (harr _ (by simp [arrayItems])) hnd
      by_cases hown : k = .count id ∨ k = .size id
      · rcases hown with rfl | rfl
        · simp only [consumes, arrayShape, BEq.rfl, ↓reduceIte, beq_iff_eq, Option.some.injEq] at hc
          exact ⟨vs, listField_ok_iff.mpr hget, Option.some.inj (qc hc ▸ hy)⟩
        · have hbp : (id == "_payload_") = false := beq_false_of_ne hidp
          simp only [consumes, hbp, Bool.false_eq_true, ↓reduceIte, arrayShape, BEq.rfl, beq_iff_eq,
            Option.some.injEq] at hc
          exact ⟨fun h => absurd h hidp, fun _ => (sizeOfTarget_array hidp hidb).mpr
            ⟨elem, ew, vs, hfa, hget, Option.some.inj (qs hc ▸ hy) ▸ hlen⟩⟩
      · have hc' := (consumes_cons_of_ne (.array id elem ew shape none) r k
          (by rintro _ _ _ _ _ ⟨⟩; exact not_or.mp hown) nofun).symm.trans hc
        cases k <;> exact hfacts _ y hy hnk hc'

theorem exactWfItem_ty (r : Items) (i : Item) (ty : Ty) (hw : exactWfItem r i = true) (h : i.ty? = some ty) :
    exactWfTy ty = true := by
  cases i <;> cases h <;> simp only [exactWfItem, Bool.and_eq_true] at hw
  · exact hw.1.1.1.1.2
  · exact hw
  · exact hw

/-- the statement of `items_exact` about one suffix `is` of a field list -/
def ItemsExact (ce cd : Cfg) (is : Items) : Prop :=
  ∀ (all : Items) (p : Bytes) (v : Value), (arrayIds all).Nodup → ∀ (fin : DState),
    (∀ id x, (id, x) ∈ fin.fields → v.get? id = some x) → (∀ p', fin.payload = some p' → p' = p) →
    ∀ (bs rest : Bytes) (st : DState),
      exactWfItems is = true → (keysBound is).Nodup → (payloadModes is).length ≤ 1 →
      (∀ t ∈ arrayItems is, t ∈ arrayItems all) → (∀ md ∈ payloadModes is, payloadMode all = some md) →
      decItems cd is bs st = .ok (fin, rest) →
      (∃ es, encItems ce all (.ok p) p.length v is = .ok es ∧ bs = es ++ rest) ∧
      (∀ k y, st.ctx.get k = some y → k ∉ keysBound is → consumes is k = true → Fact all is p.length v k y)

theorem ty_items_exact (ce cd : Cfg) (hce : ce.mode = .ideal) (hee : ce.e = cd.e) :
    (∀ ty, exactWfTy ty = true → ElemExact (encTy ce ty) (decTy cd ty)) ∧ (∀ is, ItemsExact ce cd is) := by
  -- `R`: the claim about the struct types with this body, as in `ty_items_rt`
  have h := Layout.induction₃ (P := fun ty => exactWfTy ty = true → ElemExact (encTy ce ty) (decTy cd ty))
    (Q := ItemsExact ce cd)
    (R := fun b => ∀ n, exactWfTy (.struct n b) = true → ElemExact (encTy ce (.struct n b)) (decTy cd (.struct n b)))
    ?scalar ?enumTy ?custom (fun nm b ih => ih nm) ?nil ?cons ?root (fun _ _ _ _ _ _ _ _ hw => by simp [exactWfTy] at hw)
  exact ⟨h.1, h.2.1⟩
  case scalar =>
    intro w hw bs x rest hd
    simp only [exactWfTy, Bool.and_eq_true, beq_iff_eq, decide_eq_true_eq] at hw
    obtain ⟨n, h1, rfl⟩ := decTy_scalar_ok_iff.mp hd
    obtain ⟨hle, rfl, rfl⟩ := getUint_ok_iff.mp h1
    obtain ⟨hlt, hput⟩ := rdInt_exact cd.e w hw.1 bs hle
    exact ⟨bs.take (w / 8), encTy_scalar_ok_iff.mpr ⟨_, rfl, lt_backing hw.2 hlt,
      hce ▸ elemOutOfRange_ideal_iff.mpr ((le_maskBits_iff w _).mpr hlt), hee ▸ hput.symm⟩,
      (List.take_append_drop _ _).symm⟩
  case enumTy =>
    intro nm en hw bs x rest hd
    simp only [exactWfTy, Bool.and_eq_true, beq_iff_eq, decide_eq_true_eq] at hw
    obtain ⟨n, h1, hok, rfl⟩ := decTy_enumTy_ok_iff.mp hd
    obtain ⟨hle, rfl, rfl⟩ := getUint_ok_iff.mp h1
    exact ⟨bs.take (en.width / 8), encTy_enumTy_ok_iff.mpr ⟨_, rfl, hok,
      hee ▸ (rdInt_exact cd.e en.width hw.1 bs hle).2.symm⟩, (List.take_append_drop _ _).symm⟩
  case custom =>
    intro nm w hw bs x rest hd
    simp only [exactWfTy, beq_iff_eq] at hw
    obtain ⟨n, h1, rfl⟩ := decTy_custom_ok_iff.mp hd
    obtain ⟨hle, rfl, rfl⟩ := getUint_ok_iff.mp h1
    obtain ⟨hlt, hput⟩ := rdInt_exact cd.e w hw bs hle
    exact ⟨bs.take (w / 8), encTy_custom_ok_iff.mpr ⟨_, rfl, hlt, hee ▸ hput.symm⟩, (List.take_append_drop _ _).symm⟩
  case root =>
    intro nm items ih n hw bs x rest hd
    simp only [exactWfTy, Bool.and_eq_true] at hw
    obtain ⟨fin, h1, rfl⟩ := (decBody_root_ok_iff (nm := nm)).mp hd
    have hl := hw.2
    simp only [exactLevel, Bool.and_eq_true, decide_eq_true_eq, Bool.not_eq_true', List.contains_eq_mem,
      decide_eq_false_iff_not] at hl
    obtain ⟨⟨⟨⟨hnd, hpm⟩, hkb⟩, hids⟩, hnop⟩ := hl
    obtain ⟨hfr, hpnone, hpsome⟩ := decItems_frame h1
    have hkeys := hfr.ids
    simp only [DState.empty, List.map_nil, List.nil_append] at hkeys
    -- field names are distinct: the decoded object answers every decoded field
    have hag : ∀ id y, (id, y) ∈ fin.fields → fin.value.get? id = some y := by
      intro id y hm
      simp only [DState.value, Value.get?, Value.fields]
      rw [List.lookup_append, List.lookup_of_mem_nodup fin.fields id y (by rw [hkeys]; exact hids) hm]; rfl
    obtain ⟨⟨es, he, hbs⟩, _⟩ := ih items (fin.payload.getD []) fin.value hnd fin hag
      (by intro p' hp'; rw [hp']; rfl) bs rest DState.empty hw.1 hkb hpm (fun t ht => ht)
      (payloadMode_of_modes items hpm) h1
    refine ⟨es, (encBody_root_ok_iff (nm := nm)).mpr ⟨fin.payload.getD [], ?_, he⟩, hbs⟩
    cases hh : items.hasPayload with
    | true =>
      obtain ⟨p, hp⟩ := hpsome hh
      -- no field is named "payload": the lookup reaches the payload appended last
      have hlk : fin.fields.lookup "payload" = none := List.lookup_eq_none_of_not_mem_keys (hkeys ▸ hnop)
      rw [if_pos rfl, DState.value_get_payload hlk, hp]
      exact valBytes_ofBytes p
    | false => rw [hpnone hh]; rfl
  case nil =>
    intro all p v _ fin _ _ bs rest st _ _ _ _ _ hd
    simp only [decItems, Outcome.ok.injEq, Prod.mk.injEq] at hd
    refine ⟨⟨[], rfl, hd.2⟩, ?_⟩
    intro k y _ _ hc
    cases k with
    | val id => simp [Fact, optItems]
    | _ => simp [consumes, arrayShape, payloadMode] at hc
  case cons =>
    intro i r hty ih all p v hnd fin hag hpay bs rest st hw hkb hpl harr hpm hd
    simp only [exactWfItems, Bool.and_eq_true] at hw
    obtain ⟨st1, b1, h1, h2⟩ := decItems_cons_ok_iff.mp hd
    obtain ⟨⟨es2, he2, hb2⟩, hfacts⟩ := ih all p v hnd fin hag hpay b1 rest st1 hw.2 (keysBound_tail_nodup i r hkb)
      (Nat.le_trans (payloadModes_tail_length i r) hpl) (fun t ht => harr t (arrayItems_tail i r t ht))
      (fun md hmd => hpm md (payloadModes_tail i r md hmd)) h2
    obtain ⟨hfr, hpk, _⟩ := decItems_frame h2
    obtain ⟨ext, hext, _⟩ := hfr.fields
    obtain ⟨⟨es1, q1, q2⟩, hfacts'⟩ := item_exact ce cd hce hee all p v hnd i r
      (fun ty h => hty ty h (exactWfItem_ty r i ty hw.1 h)) bs b1 st st1 hw.1 hkb harr hpm h1
      (fun id x hm => hag id x (by rw [hext]; exact List.mem_append_left _ hm))
      (fun hip p' hp' => hpay p' (by
        -- a payload item is the last one: nothing after it touches the payload
        have hr0 : r.hasPayload = false := by
          cases i with
          | payload m => exact hasPayload_after_payload m r hpl
          | _ => simp [Item.isPayload] at hip
        rw [hpk hr0]; exact hp'))
      hfacts
    exact ⟨⟨es1 ++ es2, encItems_cons_ok_iff.mpr ⟨es1, es2, q1, he2, rfl⟩, by rw [q2, hb2, List.append_assoc]⟩, hfacts'⟩

theorem ty_exact (ce cd : Cfg) (hce : ce.mode = .ideal) (hee : ce.e = cd.e) : ∀ (ty : Ty), exactWfTy ty = true →
    ElemExact (encTy ce ty) (decTy cd ty) := (ty_items_exact ce cd hce hee).1

/-- **the field list, decoder to encoder**: when the items `is` decode to the final state `fin`, the
    reference-mode encoder applied to the decoded value writes exactly the octets consumed, and every
    context entry the items consumed (a size or count) is the one the encoder recomputes -/
theorem items_exact (ce cd : Cfg) (hce : ce.mode = .ideal) (hee : ce.e = cd.e) (all : Items) (p : Bytes) (v : Value)
    (hnd : (arrayIds all).Nodup) (fin : DState) (hag : ∀ id x, (id, x) ∈ fin.fields → v.get? id = some x)
    (hpay : ∀ p', fin.payload = some p' → p' = p) :
    ∀ (is : Items) (bs rest : Bytes) (st : DState),
      exactWfItems is = true → (keysBound is).Nodup → (payloadModes is).length ≤ 1 →
      (∀ t ∈ arrayItems is, t ∈ arrayItems all) → (∀ md ∈ payloadModes is, payloadMode all = some md) →
      decItems cd is bs st = .ok (fin, rest) →
      (∃ es, encItems ce all (.ok p) p.length v is = .ok es ∧ bs = es ++ rest) ∧
      (∀ k y, st.ctx.get k = some y → k ∉ keysBound is → consumes is k = true → Fact all is p.length v k y) :=
  fun is => (ty_items_exact ce cd hce hee).2 is all p v hnd fin hag hpay


/-- **C04, "accepts only the reference language".**  For every packet or struct without parent in the
    slack-free class (`exactWfBody`: decidable, evaluated by the check on every generated layout — no reserved
    bits, padding, element-size fields, array size modifiers; every size / count field delimits a later array
    or the payload; every condition flag governs optional fields that follow it), both byte orders, the decoder model in either mode and EVERY byte string: if
    `decode` returns `(v, rest)` then the reference-mode encoder accepts `v` and writes exactly the octets that
    were consumed — closed enums, fixed fields, size / count fields all checked on the way in are exactly what
    the encoder writes on the way out.  No bound on lengths, counts, nesting. -/
theorem decode_exact (e : Endian) (m : Mode) (nm : String) (items : Items) (hw : exactWfBody (.root nm items) = true)
    (bs : Bytes) (v : Value) (rest : Bytes) (hd : decBody { e := e, mode := m } (.root nm items) bs = .ok (v, rest)) :
    ∃ es, encBody { e := e, mode := .ideal } (.root nm items) v = .ok es ∧ bs = es ++ rest :=
  ty_exact { e := e, mode := .ideal } { e := e, mode := m } rfl rfl (.struct nm (.root nm items))
    (by simpa only [exactWfTy, exactWfBody] using hw) bs v rest hd

/-- `decode_full` accepts `bs` only if `bs` is the reference encoding of the value it returns -/
theorem decode_full_exact (e : Endian) (m : Mode) (nm : String) (items : Items)
    (hw : exactWfBody (.root nm items) = true) (bs : Bytes) (v : Value)
    (hd : decodeFull { e := e, mode := m } (.root nm items) bs = .ok v) :
    encBody { e := e, mode := .ideal } (.root nm items) v = .ok bs := by
  obtain ⟨es, q1, q2⟩ := decode_exact e m nm items hw bs v [] (decodeFull_ok_iff.mp hd)
  rw [q2, List.append_nil]; exact q1

/-- … and those octets are the bit-level reference encoding of doc/reference.md -/
theorem accepted_is_reference (e : Endian) (m : Mode) (nm : String) (items : Items)
    (hw : exactWfBody (.root nm items) = true) (hr : refWfBody (.root nm items) = true) (bs : Bytes) (v : Value)
    (hd : decodeFull { e := e, mode := m } (.root nm items) bs = .ok v) :
    Ref.encode e (.root nm items) v = some bs :=
  encode_ideal_eq_ref e _ hr v bs (decode_full_exact e m nm items hw bs v hd)

/-- **C04, both directions** on the intersection of the slack-free and the round-trippable class:
    `decode_full` accepts `bs` with value `v` exactly when `v` is in normal form and `bs` is the
    reference-mode encoding of `v` -/
theorem decode_full_iff (e : Endian) (m : Mode) (nm : String) (items : Items)
    (hw : exactWfBody (.root nm items) = true) (hrt : rtWfBody (.root nm items) = true) (bs : Bytes) (v : Value)
    (hb : bs.length < usizeMax) :
    decodeFull { e := e, mode := m } (.root nm items) bs = .ok v ↔
      (encBody { e := e, mode := .ideal } (.root nm items) v = .ok bs ∧ canonBody (.root nm items) v = v) := by
  constructor
  · intro hd
    have he := decode_full_exact e m nm items hw bs v hd
    have hrt' := roundtrip_full e m nm items hrt v bs he hb
    rw [hd] at hrt'
    simp only [Outcome.ok.injEq] at hrt'
    exact ⟨he, hrt'.symm⟩
  · intro ⟨he, hc⟩
    exact roundtrip_id e m nm items hrt v hc bs he hb

/-! non-vacuity: `packet P { _count_(x): 8, t: 8, x: 16[], _size_(_payload_): 8, _payload_ }` is in the slack-free
    class, and its decoder accepts `02 07 01 00 02 00 01 aa` -/
example :
    let items : Items := .cons (.chunk [.count "x" 8, .scalar "t" 8])
      (.cons (.array "x" (.scalar 16) (.static 2) .countField none)
      (.cons (.chunk [.size "_payload_" 8 0]) (.cons (.payload (.sized 0)) .nil)))
    exactWfBody (.root "P" items) = true ∧
    (decodeFull { e := .little } (.root "P" items) [2, 7, 1, 0, 2, 0, 1, 0xaa]).isOk = true := by
  refine ⟨by decide +kernel, by decide +kernel⟩

/-! … and so is `packet Q { c: 1, d: 1, t: 6, a: 8 if c = 1, b: 16 if d = 0 }`, whose decoder accepts `41 09`
    (a present, b absent) -/
example :
    let items : Items := .cons (.chunk [.flag "c" [("a", 1)], .flag "d" [("b", 0)], .scalar "t" 6])
      (.cons (.optional "a" (.scalar 8) "c" 1) (.cons (.optional "b" (.scalar 16) "d" 0) .nil))
    exactWfBody (.root "Q" items) = true ∧
    decodeFull { e := .little } (.root "Q" items) [0x43, 9] =
      .ok (.obj [("t", .int 16), ("a", .int 9), ("b", .null)]) := by
  refine ⟨by decide +kernel, by rfl⟩

/-- **KF-C04-esize-narrow-static**: `struct Rec1 { body: 8[4] } packet Es1 { _elementsize_(r1): 2, fl1: 6, r1: Rec1[] }`
    (big-endian).  An element-size field is not consulted for elements of static size: `c7 94 b3 f1 c1` (element size 3
    announced, one element of 4 octets present) is accepted by the reference decoder and by the model of the emitted decoder
    alike, but the value cannot be written back — element size 4 does not fit the 2-bit field — so the clause
    `encode(decode_full(b)) = b` is false of this layout for both; the layout is outside `exactWfBody` -/
theorem esize_too_narrow_accepted_but_unencodable :
    let rec1 : Body := .root "Rec1" (.cons (.array "body" (.scalar 8) (.static 1) (.static 4) none) .nil)
    let items : Items := .cons (.chunk [.elemSize "r1" 2, .scalar "fl1" 6])
      (.cons (.array "r1" (.struct "Rec1" rec1) (.static 4) .unknown none) .nil)
    let v : Value := .obj [("fl1", .int 49), ("r1", .arr [.obj [("body", .arr [.int 148, .int 179, .int 241, .int 193])]])]
    exactWfBody (.root "Es1" items) = false ∧
    decodeFull { e := .big, mode := .ideal } (.root "Es1" items) [0xc7, 0x94, 0xb3, 0xf1, 0xc1] = .ok v ∧
    decodeFull { e := .big, mode := .rust } (.root "Es1" items) [0xc7, 0x94, 0xb3, 0xf1, 0xc1] = .ok v ∧
    encBody { e := .big, mode := .ideal } (.root "Es1" items) v = .err .sizeOverflow ∧
    encBody { e := .big, mode := .rust } (.root "Es1" items) v = .err .sizeOverflow := by
  refine ⟨by decide +kernel, by rfl, by rfl, by rfl, by rfl⟩


end Pdlv
