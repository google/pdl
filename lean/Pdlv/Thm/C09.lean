/-
  C09 — well-formed input is accepted regardless of declaration order and layout; groups behave as
  inlined.

  Statements about the model `Pdlv.Analyzer`: the scope pass depends only on the multiset of
  declaration identifiers (so its verdict is order-independent); group inlining rewrites a
  constrained scalar / enum field into the fixed field with the constraint's value, keeps its
  source range and condition, and leaves every other field untouched; with distinct identifiers
  declaration look-up, hence each per-declaration pass, gives the same diagnostics (up to their
  order) on every permutation of the declarations.
-/
import Pdlv.Lemmas.Analyze

namespace Pdlv
namespace Analyzer

/-- **the scope pass accepts exactly the files whose declaration identifiers are distinct** -/
theorem scope_ok_iff_nodup (f : File) : scopeDiags f = [] ↔ (declIds f).Nodup := by
  unfold scopeDiags declIds
  rw [scopeGo_nil_iff]
  simp [List.lookup]

/-- … hence its verdict does not depend on the order of the declarations -/
theorem scope_perm_invariant (f g : File) (h : f.decls.Perm g.decls) :
    (scopeDiags f = []) ↔ (scopeDiags g = []) := by
  rw [scope_ok_iff_nodup, scope_ok_iff_nodup]
  unfold declIds
  exact (h.filterMap _).nodup_iff

/-- **groups behave as inlined — constrained scalar**: a scalar field of a group that the group
    field constrains becomes the fixed field carrying the constraint's value, with the same
    source range and the same condition -/
theorem inline_fixed_scalar (f : File) (fuel : Nat) (fl : Field) (id : String) (w v : Nat) (c : Constraint)
    (cons : List (String × Constraint)) (hd : fl.desc = .scalar id w)
    (hc : cons.lookup id = some c) (hv : c.value = some v) :
    inlineFields f (fuel + 1) [fl] cons = .ok [{ fl with desc := .fixedScalar w v }] := by
  simp [inlineFields, List.foldlM, hd, hc, hv, bind, Except.bind, pure, Except.pure]

/-- **… constrained enum field**: becomes the fixed enum field with the constraint's tag -/
theorem inline_fixed_enum (f : File) (fuel : Nat) (fl : Field) (id ty tag : String) (c : Constraint)
    (cons : List (String × Constraint)) (hd : fl.desc = .typedef id ty)
    (hc : cons.lookup id = some c) (hv : c.tagId = some tag) :
    inlineFields f (fuel + 1) [fl] cons = .ok [{ fl with desc := .fixedEnum ty tag }] := by
  simp [inlineFields, List.foldlM, hd, hc, hv, bind, Except.bind, pure, Except.pure]

/-- **… unconstrained fields are untouched** -/
theorem inline_unconstrained_scalar (f : File) (fuel : Nat) (fl : Field) (id : String) (w : Nat)
    (cons : List (String × Constraint)) (hd : fl.desc = .scalar id w) (hc : cons.lookup id = none) :
    inlineFields f (fuel + 1) [fl] cons = .ok [fl] := by
  simp [inlineFields, List.foldlM, hd, hc, bind, Except.bind, pure, Except.pure]

/-- a group field is replaced by the (recursively inlined) fields of the group, under the
    group field's constraints added to the inherited ones -/
theorem inline_group_field (f : File) (fuel : Nat) (fl : Field) (gid : String) (gcs : List Constraint) (g : Decl)
    (cons : List (String × Constraint)) (hd : fl.desc = .group gid gcs) (hg : lookupDecl f gid = some g) :
    inlineFields f (fuel + 1) [fl] cons =
      (inlineFields f fuel g.fields (gcs.foldl insertCons cons)).map (fun r => [] ++ r) := by
  simp only [inlineFields, List.foldlM, hd, hg, bind, Except.bind, pure, Except.pure]
  cases inlineFields f fuel g.fields (gcs.foldl insertCons cons) <;> simp [Except.map]

/-- non-vacuity: two declarations with distinct ids pass the scope check in either order -/
example : scopeDiags { endian := .little, decls := [⟨.group "A" [], {}⟩, ⟨.group "B" [], {}⟩] } = [] ∧
          scopeDiags { endian := .little, decls := [⟨.group "B" [], {}⟩, ⟨.group "A" [], {}⟩] } = [] := by
  constructor <;> rfl

/-! ### the per-declaration passes do not depend on the order of the declarations -/

theorem perDecl_perm (f g : File) (h : Decl → List Diag) (hp : f.decls.Perm g.decls) :
    (perDecl f h).Perm (perDecl g h) := by
  unfold perDecl
  exact hp.flatMap_right h

/-- **declaration look-up is order independent** (forward references are legal): with distinct identifiers,
    `scope.typedef.get(id)` finds the same declaration in every permutation of the file -/
theorem lookupDecl_perm (f g : File) (hp : f.decls.Perm g.decls) (hn : (declIds f).Nodup) (id : String) :
    lookupDecl f id = lookupDecl g id := by
  have hng : (declIds g).Nodup := ((hp.filterMap _).nodup_iff).mp hn
  exact Option.ext fun d => by rw [lookupDecl_eq_some_iff f hn, lookupDecl_eq_some_iff g hng, hp.mem_iff]

/-- **C09, error codes**: for two files that are permutations of each other (distinct identifiers), each of the
    per-declaration passes reports the same multiset of diagnostics — in particular the same set of codes, and
    it accepts one exactly when it accepts the other -/
theorem passes_order_independent (f g : File) (hp : f.decls.Perm g.decls) (hn : (declIds f).Nodup) :
    (checkFieldIdentifiers f).Perm (checkFieldIdentifiers g) ∧ (checkEnumDeclarations f).Perm (checkEnumDeclarations g) ∧
    (checkSizeFields f).Perm (checkSizeFields g) ∧ (checkFixedFields f).Perm (checkFixedFields g) ∧
    (checkArrayFields f).Perm (checkArrayFields g) ∧ (checkPaddingFields f).Perm (checkPaddingFields g) :=
  -- the fixed-field pass resolves enum names: it needs the look-up to be order independent
  have hfix : (checkFixedFields f).Perm (checkFixedFields g) := by
    unfold checkFixedFields
    simp only [lookupDecl_perm f g hp hn]
    exact perDecl_perm f g _ hp
  ⟨perDecl_perm f g _ hp, perDecl_perm f g _ hp, perDecl_perm f g _ hp, hfix, perDecl_perm f g _ hp,
   perDecl_perm f g _ hp⟩

theorem perm_nil_iff {α : Type} {l1 l2 : List α} (h : l1.Perm l2) : l1 = [] ↔ l2 = [] :=
  ⟨fun e => (e ▸ h).symm.eq_nil, fun e => (e ▸ h).eq_nil⟩

end Analyzer
end Pdlv
