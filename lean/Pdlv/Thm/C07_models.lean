/-
  Pdlv.Thm.C07_models — C07: the four back ends, through their models, on the common class: what any of them writes, every one of them reads
  back as the value.  A corollary of the per-back-end theorems (C03 / C13 / C14 / C19: each serializer model writes the
  reference encoding; C13 / C14 / C19: each parser model accepts exactly what the reference `decode_full` accepts, with
  its values) and of the round trip of the reference decoder (C02).  Each model is tied to the emitted code of its back
  end by differential execution on every run (checks C13, C14, C19, and the wire checks for Rust).
-/
import Pdlv.Interop
import Pdlv.Thm.C02
import Pdlv.Thm.C13
import Pdlv.Thm.C14_cxx
import Pdlv.Thm.C19_java

namespace Pdlv
namespace Interop

/-- **C07, the four models interoperate.**  For every packet without parent in the common class, both byte orders, and
    every value `v` the reference assigns an encoding `bs` to (shorter than 2^31 octets, the capacity of a Java array):
    the models of the emitted Rust, Python, C++ and Java serializers all write exactly `bs`, and the models of the emitted
    Rust decoder, Python parser, C++ view (with its getters) and Java parser all read `bs` back as `v` (its fields in
    declaration order).  So a packet written by the code generated for any of the four languages is read back unchanged
    by the code generated for any other. -/
theorem four_models_interoperate (c : Cfg) (nm : String) (items : Items) (hw : commonWf nm items = true)
    (v : Value) (bs : Bytes) (he : Pdlv.encBody { e := c.e, mode := .ideal } (.root nm items) v = .ok bs)
    (hb : bs.length < 2 ^ 31) :
    (Pdlv.encBody { e := c.e, mode := .rust } (.root nm items) v = .ok bs ∧
     Py.encBody c (.root nm items) v = .ok bs ∧
     Cxx.encBody c (.root nm items) v = .ok bs ∧
     Java.encBody c (.root nm items) v = .ok bs) ∧
    (Pdlv.decodeFull { e := c.e, mode := .rust } (.root nm items) bs = .ok (canonBody (.root nm items) v) ∧
     Py.decodeFull c (.root nm items) bs = .ok (canonBody (.root nm items) v) ∧
     Cxx.viewDecode c (.root nm items) bs = .ok (canonBody (.root nm items) v) ∧
     Java.decodeFull c (.root nm items) bs = .ok (canonBody (.root nm items) v)) := by
  simp only [commonWf, Bool.and_eq_true] at hw
  obtain ⟨⟨⟨⟨⟨⟨⟨⟨hrt, hnm⟩, hrf⟩, hps⟩, hpw⟩, hcs⟩, hcv⟩, hje⟩, hjd⟩ := hw
  have husz : bs.length < usizeMax := Nat.lt_trans hb (by decide)
  have rt := fun m => roundtrip_full c.e m nm items hrt v bs he husz
  refine ⟨⟨encBody_ideal_to_rust c.e _ v bs hnm he, (Py.python_serializer_writes_reference c _ hps hrf v bs he).1,
    (Cxx.serializer_writes_reference c _ hcs hrf v bs he).1, (Java.java_writes_arrays_and_payloads c nm items hje hrf v bs he).1⟩,
    rt .rust, ?_, ?_, ?_⟩
  · exact (Py.python_parser_agrees_with_reference c nm items hpw bs _).mpr (rt .ideal)
  · exact (Cxx.view_agrees_with_reference c nm items hcv bs husz _).mpr (rt .ideal)
  · exact (Java.java_reads_arrays_and_payloads c nm items hjd bs hb _).mpr (rt .ideal)

/-! non-vacuity: `packet P { t: 1, _size_(a): 7, a: 16[], _count_(b): 4, u: 4, b: 8[], _payload_ }` is in the common class -/
example :
    let items : Items := .cons (.chunk [.scalar "t" 1, .size "a" 7 0]) (.cons (.array "a" (.scalar 16) (.static 2) .sizeField none)
      (.cons (.chunk [.count "b" 4, .scalar "u" 4]) (.cons (.array "b" (.scalar 8) (.static 1) .countField none)
      (.cons (.payload .last) .nil))))
    commonWf "P" items = true ∧
    Pdlv.encBody { e := .little, mode := .ideal } (.root "P" items) (.obj [("t", .int 1), ("a", .arr [.int 0x1234, .int 0x5678]),
      ("u", .int 3), ("b", .arr [.int 9, .int 8]), ("payload", .arr [.int 0xaa])]) = .ok [0x09, 0x34, 0x12, 0x78, 0x56, 0x32, 9, 8, 0xaa] := by
  refine ⟨by decide +kernel, by rfl⟩

end Interop
end Pdlv
