/-
  Pdlv.JavaStruct — struct-typed fields in the model of the emitted Java parser: `T x = T.fromBytes(buf.slice().order(..));
  … buf.position(buf.position() + x.width());` (java/codegen/packet.rs `decoder`, arm `DynBytes(StructRef)`).  The struct's own
  `fromBytes(ByteBuffer)` parses its fields from the rest of the buffer and checks nothing about what is left; the caller then
  advances by the struct's `width()`, a constant for a struct of static size.  Everything else is `Pdlv.Java.decItem`.
-/
import Pdlv.Java
import Pdlv.Static

namespace Pdlv
namespace Java

mutual
/-- `T.fromBytes(buf)` of a struct: the value, or the exception of its field parser -/
def decStructS (en : Endian) : Body → Bytes → Dec Value
  | .root _ items, bs =>
    (decItemsS en items bs DState.empty).bind fun (st, _) =>
      .ok (.obj (st.fields ++ (match st.payload with
                               | some p => [("payload", Value.ofBytes p)]
                               | none => [])))
  | .derived .., _ => .panic .badLayout
/-- the same with what the struct's parser left of the buffer (an array element is parsed on the buffer itself) -/
def decStructR (en : Endian) : Body → Bytes → Dec (Value × Bytes)
  | .root _ items, bs =>
    (decItemsS en items bs DState.empty).bind fun (st, r) =>
      .ok (.obj (st.fields ++ (match st.payload with
                               | some p => [("payload", Value.ofBytes p)]
                               | none => [])), r)
  | .derived .., _ => .panic .badLayout
def decTyS (en : Endian) : Ty → Bytes → Dec Value
  | .struct _ b, bs => decStructS en b bs
  | _, _ => .panic .badLayout
/-- one field of `fromBytes`, struct-typed fields of static size included -/
def decItemS (en : Endian) : Item → Bytes → DState → Dec (DState × Bytes)
  | .typedef id ty (some k), bs, st =>
    (decTyS en ty bs).bind fun v =>
      if bs.length < k then .err .length
      else .ok ({ st with fields := st.fields ++ [(id, v)] }, bs.drop k)
  | .typedef _ _ none, _, _ => .panic .badLayout
  | .chunk fs, bs, st => decItem en (.chunk fs) bs st
  | .payload m, bs, st => decItem en (.payload m) bs st
  | .array id (.struct nm b) (.static k) sh none, bs, st =>
    -- an array of structs of static size: the element count from the static count / count field / size / remaining octets as
    -- for scalars, then `T.fromBytes(buf)` per element on the buffer itself
    if k = 0 then .panic .badLayout
    else
      let count : Dec Nat := match sh with
        | .static n => .ok n
        | .countField => (match (st.ctx.get (.count id)).bind nonNeg with | some n => .ok n | none => .err .length)
        | .sizeField =>
          (match (st.ctx.get (.size id)).bind nonNeg with
           | some sz => if sz % k ≠ 0 then .err .arraySize else .ok (sz / k)
           | none => .err .length)
        | .unknown => if bs.length % k ≠ 0 then .err .arraySize else .ok (bs.length / k)
      count.bind fun n => (decRepeat (decStructR en b) n bs).bind fun (vs, r') =>
        .ok ({ st with fields := st.fields ++ [(id, Value.arr vs)] }, r')
  | .array id el ew sh pad, bs, st => decItem en (.array id el ew sh pad) bs st
  | .optional id ty c v, bs, st => decItem en (.optional id ty c v) bs st
def decItemsS (en : Endian) : Items → Bytes → DState → Dec (DState × Bytes)
  | .nil, bs, st => .ok (st, bs)
  | .cons i r, bs, st => (decItemS en i bs st).bind fun (st', bs') => decItemsS en r bs' st'
end

/-- `fromBytes(byte[])`, struct-typed fields included -/
def decodeFullS (c : Cfg) : Body → Bytes → Dec Value
  | .root _ items, bs =>
    (decItemsS c.e items bs DState.empty).bind fun (st, r) =>
      if r.isEmpty then
        .ok (.obj (st.fields ++ (match st.payload with
                                 | some p => [("payload", Value.ofBytes p)]
                                 | none => [])))
      else .err .trailingBytes
  | .derived .., _ => .panic .badLayout

/-- the class of the parser theorem plus struct-typed fields: the struct has no payload, a static size that is the one
    annotated, and own fields in the class -/
def decWfItems3 : Items → Bool
  | .nil => true
  | .cons (.typedef _ (.struct _ (.root _ sitems)) (some k)) r =>
    decWfItems2 sitems && !sitems.hasPayload && staticItems sitems == some k && localWfItems sitems && decWfItems3 r
  | .cons (.typedef ..) _ => false
  | .cons (.optional ..) _ => false
  | .cons i r => decWfItems2 (.cons i .nil) && decWfItems3 r


/-! ### the serializer: `buf.put(x.toBytes())` for a struct-typed field -/

mutual
def encStructS (en : Endian) : Body → Value → Enc Bytes
  | .root _ items, v =>
    match (if items.hasPayload then (v.get? "payload").bind valBytes else some []) with
    | none => .panic .badValue
    | some p => encItemsS en items p v items
  | .derived .., _ => .panic .badLayout
def encTyS (en : Endian) : Ty → Value → Enc Bytes
  | .struct _ b, v => encStructS en b v
  | _, _ => .panic .badLayout
def encItemS (en : Endian) (all : Items) (payload : Bytes) (v : Value) : Item → Enc Bytes
  | .typedef id ty _ =>
    match v.get? id with
    | some x => encTyS en ty x
    | none => .panic .badValue
  | .chunk fs => encItems en all payload v (.cons (.chunk fs) .nil)
  | .payload m => encItems en all payload v (.cons (.payload m) .nil)
  | .array id (.struct _ b) _ sh none =>
    -- `for (…) buf.put(x[i].toBytes());`
    (listField v id).bind fun vs => (checkCount sh vs.length).bind fun _ => encListWith (encStructS en b) vs
  | .array id el ew sh pad => encItems en all payload v (.cons (.array id el ew sh pad) .nil)
  | .optional id ty c x => encItems en all payload v (.cons (.optional id ty c x) .nil)
def encItemsS (en : Endian) (all : Items) (payload : Bytes) (v : Value) : Items → Enc Bytes
  | .nil => .ok []
  | .cons i r => (encItemS en all payload v i).bind fun a => (encItemsS en all payload v r).bind fun b => .ok (a ++ b)
end

/-- the serializer class plus struct-typed fields whose own fields are in it -/
def encWfItems3 : Items → Bool
  | .nil => true
  | .cons (.typedef _ (.struct _ (.root _ sitems)) _) r => encWfItems sitems && encWfItems3 r
  | .cons (.typedef ..) _ => false
  | .cons (.optional ..) _ => false
  | .cons i r => encWfItems (.cons i .nil) && encWfItems3 r

/-- `toBytes()` of a packet or struct without parent, struct-typed fields included -/
def encBodyS (c : Cfg) : Body → Value → Enc Bytes
  | .root nm items, v => encStructS c.e (.root nm items) v
  | b, v => encBody c b v

end Java
end Pdlv
