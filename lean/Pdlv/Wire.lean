/-
  Pdlv.Wire — the layout IR and the executable model of the code emitted by the Rust
  back end (pdl-compiler/src/backends/rust/{decoder,encoder,mod}.rs).

  The IR (`Item`, `Ty`, `Body`) is what the generators compute implicitly from an analyzed
  file; `Pdlv.Resolve` builds it from the AST.  Encoder and decoder are structural
  recursions over the IR.  Partial operations are partial: every `get_*`, slice, `chunks`,
  `%`, and every `usize` multiplication on wire-controlled values returns `panic h` where
  the generated code would panic (debug build, overflow checks on).
-/
import Pdlv.Bits
import Pdlv.Enum

namespace Pdlv

/-! ### Outcomes -/

inductive DecErr
  | unwrap | fixedValue | length | arraySize | enumValue | constraintValue
  | trailingBytes | trailingBytesInArray
deriving DecidableEq, Repr, Inhabited

inductive EncErr
  | sizeOverflow | countOverflow | invalidScalarValue | invalidArrayElementSize
  | inconsistentConditionValue
deriving DecidableEq, Repr, Inhabited

/-- Where the emitted code panics (or worse).  Each tag names a call site in the generator. -/
inductive Hazard
  | mulOverflow        -- `count * width` / `count * element_size` on usize (decoder.rs add_array_field)
  | readOOB            -- `get_uint`/`get_uN` with too few bytes
  | optionalRead       -- ... in `add_optional_field` (no length guard before the read)
  | customRead         -- ... in `add_typedef_field` for a sized custom field (no length guard)
  | chunksZero         -- `span.chunks(0)`
  | remZero            -- `size % 0`
  | sliceOOB           -- `&span[n..]` beyond the end
  | nonTermination     -- `while !span.is_empty()` over an element that consumes nothing
  | badValue           -- the value is not a value of the generated Rust type (model-side only)
  | badLayout          -- a construct the Rust back end does not support (`todo!`, compile error)
  | subOverflow        -- usize subtraction below zero
deriving DecidableEq, Repr, Inhabited

inductive Outcome (ε α : Type)
  | ok (a : α)
  | err (e : ε)
  | panic (h : Hazard)
deriving Repr, Inhabited

namespace Outcome
@[inline] def bind {ε α β} (x : Outcome ε α) (f : α → Outcome ε β) : Outcome ε β :=
  match x with
  | ok a => f a
  | err e => err e
  | panic h => panic h

instance {ε} : Monad (Outcome ε) where
  pure := ok
  bind := bind

def isPanic {ε α} : Outcome ε α → Bool
  | panic _ => true
  | _ => false

def isOk {ε α} : Outcome ε α → Bool
  | ok _ => true
  | _ => false
end Outcome

abbrev Dec := Outcome DecErr
abbrev Enc := Outcome EncErr

/-! ### Values (JSON-shaped: what the generated serde impls read and write) -/

inductive Value
  | int (n : Nat)
  | arr (vs : List Value)
  | obj (fs : List (String × Value))
  | null
deriving Repr, Inhabited

namespace Value
def fields : Value → List (String × Value)
  | obj fs => fs
  | _ => []

def get? (v : Value) (k : String) : Option Value := v.fields.lookup k

def asNat? : Value → Option Nat
  | int n => some n
  | _ => none

def asList? : Value → Option (List Value)
  | arr vs => some vs
  | _ => none

def ofBytes (bs : Bytes) : Value := arr (bs.map fun b => int b.toNat)

def isNull : Value → Bool
  | null => true
  | _ => false
end Value

/-! ### Layout IR -/

inductive BitField
  | scalar (id : String) (w : Nat)
  | flag (id : String) (opts : List (String × Nat))
  | enumTy (id : String) (ty : String) (e : Enum.Decl)
  | fixed (w v : Nat)                       -- fixed scalar, or fixed enum with its tag value
  | reserved (w : Nat)
  | size (target : String) (w : Nat) (modifier : Nat)   -- target "_payload_"/"_body_" or an array id
  | count (target : String) (w : Nat)
  | elemSize (target : String) (w : Nat)
deriving Repr, Inhabited

def BitField.width : BitField → Nat
  | .scalar _ w => w
  | .flag _ _ => 1
  | .enumTy _ _ e => e.width
  | .fixed w _ => w
  | .reserved w => w
  | .size _ w _ => w
  | .count _ w => w
  | .elemSize _ w => w

inductive ElemWidth | static (bytes : Nat) | dynamic | unknown
deriving DecidableEq, Repr, Inhabited

inductive Shape | static (n : Nat) | countField | sizeField | unknown
deriving DecidableEq, Repr, Inhabited

/-- how the payload is delimited (decoder.rs `add_payload_field`) -/
inductive PayloadMode
  | sized (modifier : Nat)        -- `_size_(_payload_)` present (modifier 0 if none)
  | last                          -- offset from end = 0
  | beforeStatic (octets : Nat)   -- followed by fields of static size
  | undelimited                   -- followed by dynamic fields: no code is emitted (rustc error)
deriving DecidableEq, Repr, Inhabited

mutual
inductive Ty
  | scalar (w : Nat)
  | enumTy (name : String) (e : Enum.Decl)
  | custom (name : String) (w : Nat)
  | struct (name : String) (body : Body)
inductive Item
  | chunk (fs : List BitField)
  | array (id : String) (elem : Ty) (ew : ElemWidth) (shape : Shape) (pad : Option Nat)
  | typedef (id : String) (ty : Ty) (staticBytes : Option Nat)
  | optional (id : String) (ty : Ty) (condId : String) (condVal : Nat)
  | payload (mode : PayloadMode)
inductive Items
  | nil
  | cons (i : Item) (r : Items)
inductive Body
  | root (name : String) (items : Items)
  /-- `cs`: this level's own constraints (field id, value); `allCs`: constraints of this level
      and of every ancestor (what `iter_constraints` yields), child first -/
  | derived (name : String) (parent : Body) (cs : List (String × Nat)) (allCs : List (String × Nat))
      (items : Items)
end

instance : Inhabited Ty := ⟨.scalar 8⟩
instance : Inhabited Item := ⟨.chunk []⟩
instance : Inhabited Items := ⟨.nil⟩
instance : Inhabited Body := ⟨.root "" .nil⟩

def Items.toList : Items → List Item
  | .nil => []
  | .cons i r => i :: r.toList

def Items.ofList : List Item → Items
  | [] => .nil
  | i :: r => .cons i (Items.ofList r)

def Body.name : Body → String
  | .root n _ => n
  | .derived n .. => n

def Body.items : Body → Items
  | .root _ is => is
  | .derived _ _ _ _ is => is

def Items.hasPayload : Items → Bool
  | .nil => false
  | .cons (.payload _) _ => true
  | .cons _ r => r.hasPayload

def Body.hasPayload (b : Body) : Bool := b.items.hasPayload

/-- `rust`: the code the Rust back end emits at the pinned tree, hazards included.
    `ideal`: the same decoder/encoder with every hazard replaced by the outcome the language
    reference prescribes — the *reference implementation* the other back ends are compared with
    and that the bit-level specification `Pdlv.Ref` is proved against. -/
inductive Mode | rust | ideal
deriving DecidableEq, Repr, Inhabited

structure Cfg where
  e : Endian
  mode : Mode := .rust
deriving Repr, Inhabited

/-! ### Primitive reads and writes -/

/-- `types::Integer::new(w).width` for w ≤ 64 -/
def backingOf (w : Nat) : Nat := Enum.backing w

/-- `put_uint{_le}(v, w/8)` / `put_uN{_le}(v)`: the low `w` bits, in the file's byte order. -/
def putUint (e : Endian) (w : Nat) (v : Nat) : Bytes :=
  match e with
  | .little => toLE (w / 8) v
  | .big => toBE (w / 8) v

/-- `get_uint{_le}(w/8)`: panics in `bytes` when fewer bytes remain. -/
def getUint (e : Endian) (w : Nat) (bs : Bytes) : Dec (Nat × Bytes) :=
  let k := w / 8
  if bs.length < k then .panic .readOOB
  else
    let h := bs.take k
    .ok ((match e with | .little => fromLE h | .big => fromBE h), bs.drop k)

/-- `check_size(span, wanted)` -/
def checkSize (bs : Bytes) (wanted : Nat) : Dec Unit :=
  if bs.length < wanted then .err .length else .ok ()

def umul (a b : Nat) : Dec Nat :=
  if a * b < usizeMax then .ok (a * b) else .panic .mulOverflow

/-! ### Decoder context: what the emitted code has bound so far -/

inductive Key
  | size (t : String) | count (t : String) | esize (t : String) | val (id : String)
deriving DecidableEq, Repr, Inhabited

abbrev Ctx := List (Key × Nat)

def Ctx.get (c : Ctx) (k : Key) : Option Nat := c.lookup k

structure DState where
  ctx : Ctx := []
  fields : List (String × Value) := []
  payload : Option Bytes := none
deriving Inhabited

def DState.empty : DState := { ctx := [], fields := [], payload := none }

/-! ### Enum conversion as the emitted code performs it -/

/-- `E::try_from(x)` succeeded? (the exactness of the emitted arms is C15) -/
def enumOk (e : Enum.Decl) (x : Nat) : Bool := Enum.spec e x != .err

/-! ### Bit-field chunks -/

def chunkBits (fs : List BitField) : Nat := (fs.map BitField.width).foldl (· + ·) 0

/-- decode the fields of one chunk from the chunk integer -/
def decChunkFields (ideal : Bool) : List BitField → Nat → Nat → DState → Dec DState
  | [], _, _, st => .ok st
  | f :: fs, shift, chunk, st =>
    let w := f.width
    let v := (chunk / 2 ^ shift) % 2 ^ w
    let next := decChunkFields ideal fs (shift + w) chunk
    match f with
    | .scalar id _ =>
      next { st with ctx := (.val id, v) :: st.ctx, fields := st.fields ++ [(id, .int v)] }
    | .flag id _ => next { st with ctx := (.val id, v) :: st.ctx }
    | .enumTy id _ e =>
      if enumOk e v then
        next { st with ctx := (.val id, v) :: st.ctx, fields := st.fields ++ [(id, .int v)] }
      else .err .enumValue
    | .fixed _ c => if v = c then next st else .err .fixedValue
    | .reserved _ => next st
    | .size t _ m =>
      -- an array's size field carries `octets + modifier`; the Rust back end ignores the
      -- modifier ("TODO size modifier"), the payload's is handled where the payload is read
      if ideal ∧ t ≠ "_payload_" then
        (if v < m then .err .length else next { st with ctx := (.size t, v - m) :: st.ctx })
      else next { st with ctx := (.size t, v) :: st.ctx }
    | .count t _ => next { st with ctx := (.count t, v) :: st.ctx }
    | .elemSize t _ => next { st with ctx := (.esize t, v) :: st.ctx }

def decChunk (e : Endian) (ideal : Bool) (fs : List BitField) (bs : Bytes) (st : DState) :
    Dec (DState × Bytes) :=
  let bits := chunkBits fs
  let k := bits / 8
  if bs.length < k then .err .length
  else
    let h := bs.take k
    let chunk := match e with | .little => fromLE h | .big => fromBE h
    (decChunkFields ideal fs 0 chunk st).bind fun st' => .ok (st', bs.drop k)

/-! ### Loops (fuelled / counted; the element decoder is a parameter) -/

/-- `for _ in 0..n { v.push(elem?) }` / `(0..n).map(|_| elem).collect::<Result<_,_>>()` -/
def decRepeat (f : Bytes → Dec (Value × Bytes)) : Nat → Bytes → Dec (List Value × Bytes)
  | 0, bs => .ok ([], bs)
  | n + 1, bs =>
    (f bs).bind fun (v, bs') =>
    (decRepeat f n bs').bind fun (vs, bs'') => .ok (v :: vs, bs'')

/-- `while !span.is_empty() { v.push(elem?) }`; fuel = span length + 1.  An element that
    consumes nothing on a non-empty span never terminates in the real code. -/
def decWhile (f : Bytes → Dec (Value × Bytes)) : Nat → Bytes → Dec (List Value)
  | 0, _ => .panic .nonTermination
  | fuel + 1, bs =>
    if bs.isEmpty then .ok []
    else
      (f bs).bind fun (v, bs') =>
      if bs'.length < bs.length then
        (decWhile f fuel bs').bind fun vs => .ok (v :: vs)
      else .panic .nonTermination

/-- `span.chunks(es).take(n).map(|mut chunk| elem(chunk).and_then(|v| chunk.is_empty()…))` -/
def decChunked (f : Bytes → Dec (Value × Bytes)) (es : Nat) : Nat → Bytes → Dec (List Value)
  | 0, _ => .ok []
  | n + 1, bs =>
    if bs.isEmpty then .ok []      -- `chunks` is exhausted
    else
      let c := bs.take es
      (f c).bind fun (v, r) =>
      if r.isEmpty then
        (decChunked f es n (bs.drop es)).bind fun vs => .ok (v :: vs)
      else .err .trailingBytesInArray

/-- `parent.x()`: a data field of the parent value, or the constant an ancestor's constraint
    fixes for it -/
def parentField (parent : Body) (pv : Value) (k : String) : Option Nat :=
  match pv.fields.lookup k with
  | some v => v.asNat?
  | none =>
    (match parent with
     | .derived _ _ _ a _ => a
     | .root .. => []).lookup k

/-- some constraint `(field, value)` of the child does not hold of the parent value -/
def violated (parent : Body) (pv : Value) (cs : List (String × Nat)) : Bool :=
  cs.any fun (k, cv) => parentField parent pv k != some cv

/-- `Child::decode_partial(&parent)`: check this level's constraints on the parent value,
    parse the own fields (`decOwn`) from the parent's payload (all of it), copy the remaining
    fields -/
def decPartialWith (decOwn : Bytes → Dec (DState × Bytes)) (parent : Body) (cs : List (String × Nat))
    (pv : Value) : Dec Value :=
  let pf := pv.fields
  if violated parent pv cs then .err .constraintValue
  else
    let copied := pf.filter fun (k, _) => k != "payload" && !(cs.any (·.1 == k))
    if parent.hasPayload then
      let pbytes : Bytes := match pf.lookup "payload" with
        | some (.arr vs) => vs.map fun v => UInt8.ofNat ((v.asNat?).getD 0)
        | _ => []
      (decOwn pbytes).bind fun (st, rest) =>
        if rest.isEmpty then
          .ok (.obj (st.fields ++ copied ++ (match st.payload with
                               | some p => [("payload", Value.ofBytes p)]
                               | none => [])))
        else .err .trailingBytes
    else .ok (.obj copied)

/-! ### The decoder -/

/-- `count * width` on `usize`: panics (overflow checks on) in the emitted code; the
    reference outcome is `LengthError` (no input can hold that many octets) -/
def umulM (m : Mode) (a b : Nat) : Dec Nat :=
  match m with
  | .rust => umul a b
  | .ideal => if a * b < usizeMax then .ok (a * b) else .err .length

/-- element size 0 with a count: the emitted code calls `chunks(0)` -/
def zeroElem (m : Mode) (el : Bytes → Dec (Value × Bytes)) (n : Nat) (h : Hazard) (rest : Bytes) :
    Dec (List Value × Bytes) :=
  match m with
  | .rust => .panic h
  | .ideal => (decRepeat (fun _ => (el []).bind fun (v, _) => .ok (v, [])) n []).bind fun (vs, _) => .ok (vs, rest)

def unwrapArr (n : Nat) (vs : List Value) : Dec (List Value) :=
  if vs.length = n then .ok vs else .err .unwrap

/-- the context entries an array case reads are bound (a size / count / element-size field
    precedes the array); otherwise the emitted code would not compile -/
def arrayKeysOk (ew : ElemWidth) (shape : Shape) (cnt siz esz : Option Nat) : Bool :=
  (match shape with
   | .countField => cnt.isSome
   | .sizeField => siz.isSome
   | _ => true) &&
  (match ew with
   | .dynamic => esz.isSome
   | _ => true)

/-- the twelve cases of decoder.rs `add_array_field` (element width × array shape) over the
    element decoder `el`, on the span `sp` the array is parsed from -/
def decArray (m : Mode) (el : Bytes → Dec (Value × Bytes)) (ew : ElemWidth) (shape : Shape)
    (cnt siz esz : Option Nat) (sp : Bytes) : Dec (List Value × Bytes) :=
  let ideal := m == .ideal
  match ew, shape with
  | .unknown, .sizeField =>
    match siz with
    | none => .panic .badLayout
    | some sz =>
      if sp.length < sz then .err .length
      else
        -- (before the `fix:` commit "parse padded, size-delimited arrays … from the array
        -- octets" the padded case parsed the elements from what follows the array)
        (decWhile el (sz + 1) (sp.take sz)).bind fun vs => .ok (vs, sp.drop sz)
  | .unknown, .static n =>
      (decRepeat el n sp).bind fun (vs, r) => (unwrapArr n vs).bind fun vs => .ok (vs, r)
  | .unknown, .countField =>
    match cnt with
    | none => .panic .badLayout
    | some n => decRepeat el n sp
  | .unknown, .unknown =>
      (decWhile el (sp.length + 1) sp).bind fun vs => .ok (vs, [])
  | .static w, .static n =>
      if sp.length < n * w then .err .length
      else (decRepeat el n sp).bind fun (vs, r) => (unwrapArr n vs).bind fun vs => .ok (vs, r)
  | .static w, .countField =>
    match cnt with
    | none => .panic .badLayout
    | some n =>
      (umulM m n w).bind fun tot =>
      if sp.length < tot then .err .length else decRepeat el n sp
  | .static w, .sizeField =>
    match siz with
    | none => .panic .badLayout
    | some sz =>
      if sp.length < sz then .err .length
      else if w = 0 then .panic .remZero
      else if sz % w ≠ 0 then .err .arraySize
      else decRepeat el (sz / w) sp
  | .static w, .unknown =>
      let sz := sp.length
      if w = 0 then .panic .remZero
      else if sz % w ≠ 0 then .err .arraySize
      else decRepeat el (sz / w) sp
  | .dynamic, .static n =>
    match esz with
    | none => .panic .badLayout
    | some es =>
      (if n = 1 then .ok es else umulM m n es).bind fun tot =>
      if sp.length < tot then .err .length
      else if es = 0 then zeroElem m el n .chunksZero sp
      else (decChunked el es n sp).bind fun vs =>
        (unwrapArr n vs).bind fun vs => .ok (vs, sp.drop tot)
  | .dynamic, .countField =>
    match esz, cnt with
    | some es, some n =>
      (umulM m n es).bind fun tot =>
      if sp.length < tot then .err .length
      else if es = 0 then zeroElem m el n .chunksZero sp
      else (decChunked el es n sp).bind fun vs => .ok (vs, sp.drop tot)
    | _, _ => .panic .badLayout
  | .dynamic, .sizeField =>
    match esz, siz with
    | some es, some sz =>
      if sp.length < sz then .err .length
      else if es = 0 then (if ideal then (if sz = 0 then .ok ([], sp) else .err .arraySize) else .panic .remZero)
      else if sz % es ≠ 0 then .err .arraySize
      else (decChunked el es (sz / es) sp).bind fun vs => .ok (vs, sp.drop sz)
    | _, _ => .panic .badLayout
  | .dynamic, .unknown =>
    match esz with
    | none => .panic .badLayout
    | some es =>
      let sz := sp.length
      if es = 0 then (if ideal then (if sz = 0 then .ok ([], sp) else .err .arraySize) else .panic .remZero)
      else if sz % es ≠ 0 then .err .arraySize
      else (decChunked el es (sz / es) sp).bind fun vs => .ok (vs, [])

/-- padding: the array is parsed from the first `pad` octets -/
def withPad (pad : Option Nat) (bs : Bytes) (k : Bytes → Dec (List Value × Bytes)) :
    Dec (List Value × Bytes) :=
  match pad with
  | none => k bs
  | some p =>
    if bs.length < p then .err .length
    else (k (bs.take p)).bind fun (vs, _) => .ok (vs, bs.drop p)

mutual
/-- one array element / optional / typedef value -/
def decTy (c : Cfg) : Ty → Bytes → Dec (Value × Bytes)
  | .scalar w, bs => (getUint c.e w bs).bind fun (v, r) => .ok (.int v, r)
  | .enumTy _ en, bs =>
    (getUint c.e en.width bs).bind fun (v, r) =>
      if enumOk en v then .ok (.int v, r) else .err .enumValue
  | .custom _ w, bs =>
    -- `impl Packet for Custom`: guarded
    if bs.length < w / 8 then .err .length
    else (getUint c.e w bs).bind fun (v, r) => .ok (.int v, r)
  | .struct _ b, bs => decBody c b bs

def decItem (c : Cfg) : Item → Bytes → DState → Dec (DState × Bytes)
  | .chunk fs, bs, st => decChunk c.e (c.mode == .ideal) fs bs st
  | .typedef id ty _, bs, st =>
    match ty with
    | .custom _ w =>
      -- decoder.rs add_typedef_field: `get_uint` with no length guard
      if bs.length < w / 8 then
        (match c.mode with | .rust => .panic .customRead | .ideal => .err .length)
      else
      (getUint c.e w bs).bind fun (v, r) =>
        .ok ({ st with fields := st.fields ++ [(id, .int v)] }, r)
    | ty =>
      (decTy c ty bs).bind fun (v, r) =>
        .ok ({ st with fields := st.fields ++ [(id, v)] }, r)
  | .optional id ty cid cval, bs, st =>
    match st.ctx.get (.val cid) with
    | none => .panic .badLayout
    | some cv =>
      if cv = cval then
        -- scalar / enum: unguarded `get_uint`; struct: `decode_mut`
        let short : Bool := match ty with
          | .scalar w => bs.length < w / 8
          | .enumTy _ en => bs.length < en.width / 8
          | _ => false
        -- guarded since the `fix:` commit "check the remaining length before reading an
        -- optional scalar or enum field" (was: unguarded `get_uint`, hazard `optionalRead`)
        if short then .err .length
        else
        (decTy c ty bs).bind fun (v, r) =>
          .ok ({ st with fields := st.fields ++ [(id, v)] }, r)
      else .ok ({ st with fields := st.fields ++ [(id, .null)] }, bs)
  | .payload mode, bs, st =>
    match mode with
    | .sized m =>
      match st.ctx.get (.size "_payload_") with
      | none => .panic .badLayout
      | some sz =>
        if sz < m then .err .length
        else
          let n := sz - m
          if bs.length < n then .err .length
          else .ok ({ st with payload := some (bs.take n) }, bs.drop n)
    | .last => .ok ({ st with payload := some bs }, [])
    | .beforeStatic k =>
      if bs.length < k then .err .length
      else .ok ({ st with payload := some (bs.take (bs.length - k)) }, bs.drop (bs.length - k))
    | .undelimited => .panic .badLayout
  | .array id elem ew shape pad, bs, st =>
    let cnt := st.ctx.get (.count id)
    let siz := st.ctx.get (.size id)
    let esz := st.ctx.get (.esize id)
    if !arrayKeysOk ew shape cnt siz esz then .panic .badLayout
    else
      (withPad pad bs (decArray c.mode (decTy c elem) ew shape cnt siz esz)).bind fun (vs, r) =>
        .ok ({ st with fields := st.fields ++ [(id, .arr vs)] }, r)

def decItems (c : Cfg) : Items → Bytes → DState → Dec (DState × Bytes)
  | .nil, bs, st => .ok (st, bs)
  | .cons i r, bs, st => (decItem c i bs st).bind fun (st', bs') => decItems c r bs' st'

/-- `T::decode(buf)` for a packet or struct -/
def decBody (c : Cfg) : Body → Bytes → Dec (Value × Bytes)
  | .root _ items, bs =>
    (decItems c items bs DState.empty).bind fun (st, r) =>
        .ok (.obj (st.fields ++ (match st.payload with
                               | some p => [("payload", Value.ofBytes p)]
                               | none => [])), r)
  | .derived _ parent cs _ items, bs =>
    (decBody c parent bs).bind fun (pv, r) =>
      (decPartialWith (fun bs => decItems c items bs DState.empty) parent cs pv).bind fun v => .ok (v, r)

end

/-- `Child::decode_partial(&parent)` for a child with the given own items -/
def decPartial (c : Cfg) (parent : Body) (cs : List (String × Nat)) (items : Items) (pv : Value) : Dec Value :=
  decPartialWith (fun bs => decItems c items bs DState.empty) parent cs pv

/-- `Packet::decode_full` (pdl-runtime) -/
def decodeFull (c : Cfg) (b : Body) (bs : Bytes) : Dec Value :=
  (decBody c b bs).bind fun (v, r) => if r.isEmpty then .ok v else .err .trailingBytes

/-! ### The encoder -/

def maskBits (w : Nat) : Nat := 2 ^ w - 1

def valBytes (v : Value) : Option Bytes :=
  match v with
  | .arr vs => vs.mapM fun x => match x with
      | .int n => if n < 256 then some (UInt8.ofNat n) else none
      | _ => none
  | _ => none

/-- `iter().map(f).sum()` -/
def sumLen (f : Value → Nat) : List Value → Nat
  | [] => 0
  | v :: vs => f v + sumLen f vs

mutual
/-- `encoded_len()` of a value of the given type, as the emitted expression computes it -/
def lenTy : Ty → Value → Nat
  | .scalar w, _ => w / 8
  | .enumTy _ en, _ => en.width / 8
  | .custom _ w, _ => w / 8
  | .struct _ b, v => lenBody b v

def lenItem : Item → Value → Nat
  | .chunk fs, _ => chunkBits fs / 8
  | .typedef id ty sb, v =>
    match sb with
    | some n => n
    | none => lenTy ty ((v.get? id).getD .null)
  | .optional id ty _ _, v =>
    match v.get? id with
    | some .null | none => 0
    | some x => lenTy ty x
  | .payload _, v => ((v.get? "payload").bind Value.asList?).getD [] |>.length
  | .array id elem ew _ pad, v =>
    match pad with
    | some p => p
    | none =>
      let vs := ((v.get? id).bind Value.asList?).getD []
      match ew with
      | .static w => vs.length * w
      | _ => sumLen (lenTy elem) vs

def lenItems : Items → Value → Nat
  | .nil, _ => 0
  | .cons i r, v => lenItem i v + lenItems r v

/-- own items only (`encode_partial`'s length; what a parent sees as its payload size) -/
def lenBody : Body → Value → Nat
  | .root _ items, v => lenItems items v
  | .derived _ parent _ _ items, v =>
    -- encode_with_parents: parent's fields around the child's bytes
    lenItems items v + lenBodyAround parent v

/-- the parent levels' contribution: their own non-payload items -/
def lenBodyAround : Body → Value → Nat
  | .root _ items, v => lenItemsNoPayload items v
  | .derived _ parent _ _ items, v => lenItemsNoPayload items v + lenBodyAround parent v

def lenItemsNoPayload : Items → Value → Nat
  | .nil, _ => 0
  | .cons (.payload _) r, v => lenItemsNoPayload r v
  | .cons i r, v => lenItem i v + lenItemsNoPayload r v
end

/-- value of an enum / custom typed field as the backing integer; `badValue` when the JSON
    integer is not a value of the generated type (serde rejects it before `encode` runs) -/
def natField (v : Value) (id : String) : Enc Nat :=
  match v.get? id with
  | some (.int n) => .ok n
  | _ => .panic .badValue

def listField (v : Value) (id : String) : Enc (List Value) :=
  match v.get? id with
  | some (.arr vs) => .ok vs
  | _ => .panic .badValue

def isPresent (v : Value) (id : String) : Bool :=
  match v.get? id with
  | some .null | none => false
  | some _ => true

/-- Size in octets the emitted size-field expression computes for its target. -/
def sizeOfTarget (items : Items) (target : String) (payloadLen : Nat) (v : Value) : Enc Nat :=
  if target == "_payload_" || target == "_body_" then .ok payloadLen
  else
    let rec find : Items → Enc Nat
      | .nil => .panic .badLayout
      | .cons (.array id elem ew _ _) r =>
        if id == target then
          (listField v id).bind fun vs =>
            match elem, ew with
            | .scalar w, _ => .ok (vs.length * (w / 8))
            | .enumTy _ en, _ => .ok (vs.length * (en.width / 8))
            | t, _ => .ok (sumLen (lenTy t) vs)
        else find r
      | .cons _ r => find r
    find items

/-- the values and checks of one chunk, in field order; returns the chunk integer -/
def encChunkFields (ideal : Bool) (items : Items) (payloadLen : Nat) (v : Value) :
    List BitField → Nat → Nat → Enc Nat
  | [], _, acc => .ok acc
  | f :: fs, shift, acc =>
    let next (x : Nat) := encChunkFields ideal items payloadLen v fs (shift + f.width) (acc + x * 2 ^ shift)
    match f with
    | .scalar id w =>
      (natField v id).bind fun x =>
        if x ≥ 2 ^ backingOf w then .panic .badValue
        else if backingOf w > w ∧ x > maskBits w then .err .invalidScalarValue
        else next x
    | .flag _ opts =>
      match opts with
      | [] => .panic .badLayout
      | (o, setv) :: _ =>
        let one := opts.any fun (k, val) => if val = 1 then isPresent v k else !isPresent v k
        let zero := opts.any fun (k, val) => if val = 1 then !isPresent v k else isPresent v k
        if opts.length ≥ 2 ∧ zero ∧ one then .err .inconsistentConditionValue
        else next (if isPresent v o then setv else 1 - setv)
    | .enumTy id _ e =>
      (natField v id).bind fun x => if enumOk e x then next x else .panic .badValue
    | .fixed _ c => next c
    | .reserved _ => next 0
    | .size t w m =>
      (sizeOfTarget items t payloadLen v).bind fun s =>
        -- the modifier is only applied for payloads (encoder.rs "TODO: size modifier")
        let s := if ideal || t == "_payload_" || t == "_body_" then s + m else s
        if s > maskBits w then .err .sizeOverflow else next s
    | .elemSize t w =>
      (listField v t).bind fun vs =>
        let rec elemTy : Items → Option Ty
          | .nil => none
          | .cons (.array id elem _ _ _) r => if id == t then some elem else elemTy r
          | .cons _ r => elemTy r
        match elemTy items with
        | none => .panic .badLayout
        | some ty =>
          let es := match vs with | [] => 0 | x :: _ => lenTy ty x
          if vs.any (fun x => lenTy ty x != es) then .err .invalidArrayElementSize
          else if es > maskBits w then .err .sizeOverflow
          else next es
    | .count t w =>
      (listField v t).bind fun vs =>
        -- the range check is emitted for every count field narrower than usize (since the
        -- `fix:` commit "emit the CountOverflow check for count fields as wide as their backing
        -- integer"; before, `len as uN` wrapped silently when w ∈ {8,16,32})
        if (ideal ∨ w < 64) ∧ vs.length > maskBits w then .err .countOverflow
        else next (vs.length % 2 ^ backingOf w)

/-- the reference rejects an array element beyond its declared width; the emitted code has no
    such check (`put_uint` keeps the low bits) -/
def elemOutOfRange (m : Mode) (w x : Nat) : Bool :=
  match m with
  | .ideal => decide (x > maskBits w)
  | .rust => false

/-- a static count is a Rust array type `[T; N]`: a value of another length does not exist -/
def checkCount (shape : Shape) (len : Nat) : Enc Unit :=
  match shape with
  | .static n => if len = n then .ok () else .panic .badValue
  | _ => .ok ()

/-- `if array_size > padding_octets { return Err(SizeOverflow) }` -/
def checkPad (pad : Option Nat) (sz : Nat) : Enc Unit :=
  match pad with
  | none => .ok ()
  | some p => if sz > p then .err .sizeOverflow else .ok ()

/-- the `array_size` expression of `encode_array_field` -/
def arrSize (ew : ElemWidth) (elemLen : Value → Nat) (vs : List Value) : Nat :=
  match ew with
  | .static w => vs.length * w
  | _ => sumLen elemLen vs

/-- `buf.put_bytes(0, padding_octets - array_size)` -/
def padTo (pad : Option Nat) (bs : Bytes) : Enc Bytes :=
  match pad with
  | none => .ok bs
  | some p => if bs.length ≤ p then .ok (bs ++ zeros (p - bs.length)) else .panic .subOverflow

/-- `for elem in &self.x { put(elem) }` -/
def encListWith (f : Value → Enc Bytes) : List Value → Enc Bytes
  | [] => .ok []
  | v :: vs => (f v).bind fun a => (encListWith f vs).bind fun b => .ok (a ++ b)

mutual
def encTy (c : Cfg) : Ty → Value → Enc Bytes
  | .scalar w, v =>
    match v with
    | .int x =>
      if x ≥ 2 ^ backingOf w then .panic .badValue
      -- array elements get no range check in the emitted code: `put_uint` keeps the low w bits
      else if elemOutOfRange c.mode w x then .err .invalidScalarValue
      else .ok (putUint c.e w x)
    | _ => .panic .badValue
  | .enumTy _ en, v =>
    match v with
    | .int x => if enumOk en x then .ok (putUint c.e en.width x) else .panic .badValue
    | _ => .panic .badValue
  | .custom _ w, v =>
    match v with
    | .int x => if x < 2 ^ w then .ok (putUint c.e w x) else .panic .badValue
    | _ => .panic .badValue
  | .struct _ b, v => encBody c b v

def encItem (c : Cfg) (all : Items) (payload : Enc Bytes) (payloadLen : Nat) (v : Value) :
    Item → Enc Bytes
  | .chunk fs =>
    (encChunkFields (c.mode == .ideal) all payloadLen v fs 0 0).bind fun x => .ok (putUint c.e (chunkBits fs) x)
  | .typedef id ty _ =>
    match v.get? id with
    | some x => encTy c ty x
    | none => .panic .badValue
  | .optional id ty _ _ =>
    match v.get? id with
    | some .null | none => .ok []
    | some x =>
      match ty with
      | .scalar w =>
        match x with
        | .int n =>
          if n ≥ 2 ^ backingOf w then .panic .badValue
          else if backingOf w > w ∧ n > maskBits w then .err .invalidScalarValue
          else .ok (putUint c.e w n)
        | _ => .panic .badValue
      | _ => encTy c ty x
  -- the child's serialization runs here, *after* the checks of the fields before the payload
  | .payload _ => payload
  | .array id elem ew shape pad =>
    (listField v id).bind fun vs =>
    (checkCount shape vs.length).bind fun _ =>
    (checkPad pad (arrSize ew (lenTy elem) vs)).bind fun _ =>
    (encListWith (encTy c elem) vs).bind fun bs => padTo pad bs

def encItems (c : Cfg) (all : Items) (payload : Enc Bytes) (payloadLen : Nat) (v : Value) :
    Items → Enc Bytes
  | .nil => .ok []
  | .cons i r =>
    (encItem c all payload payloadLen v i).bind fun a =>
    (encItems c all payload payloadLen v r).bind fun b => .ok (a ++ b)

/-- `encode`: own items, wrapped by each ancestor's items (`encode_with_parents`).
    `v` holds the data fields; constrained fields are supplied from `allCs`. -/
def encBody (c : Cfg) : Body → Value → Enc Bytes
  | .root _ items, v =>
    match (if items.hasPayload then (v.get? "payload").bind valBytes else some []) with
    | none => .panic .badValue
    | some p => encItems c items (.ok p) p.length v items
  | .derived _ parent _ allCs items, v =>
    match (if items.hasPayload then (v.get? "payload").bind valBytes else some []) with
    | none => .panic .badValue
    | some p =>
      -- constants for every constrained ancestor field
      let v' := Value.obj (v.fields ++ allCs.map fun (k, c) => (k, Value.int c))
      encAround c parent v' (encItems c items (.ok p) p.length v' items) (lenItems items v')

/-- the ancestors' items around the child's bytes; `len` is the child's `packet_size` -/
def encAround (c : Cfg) : Body → Value → Enc Bytes → Nat → Enc Bytes
  | .root _ items, v, inner, len => encItems c items inner len v items
  | .derived _ parent _ _ items, v, inner, len =>
    encAround c parent v (encItems c items inner len v items) (lenItemsNoPayload items v + len)
end

end Pdlv
