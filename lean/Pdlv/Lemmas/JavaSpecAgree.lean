/-
  Pdlv.Lemmas.JavaSpecAgree — whatever the first-fitting-child dispatch of the Java back end returns (`Pdlv.JavaSpec`)
  is reached by the reference's `decode_partial`, step by step, with the same field values (`Reaches`); and the width test
  of the dispatch (`ownWidth`) against what the reference's parser of the own fields consumes.
-/
import Pdlv.JavaSpec
import Pdlv.Lemmas.JavaStructSame

namespace Pdlv
namespace JavaSpec

open Java (items_same3)

def ideal (c : Cfg) : Cfg := { e := c.e, mode := .ideal }

/-- the reference's `Child::decode_partial(&parent)` for a node of the tree -/
def refChild (c : Cfg) : Body → Value → Dec Value
  | .derived _ parent cs _ items, pv =>
    decPartialWith (fun bs => Pdlv.decItems (ideal c) items bs DState.empty) parent cs pv
  | .root .., _ => .panic .badLayout

/-- the reference reaches packet `T` with value `v` from this node, one `decode_partial` per level -/
inductive Reaches (c : Cfg) : Node → Value → String → Value → Prop
  | here (b : Body) (fb : Bool) (ks : List Node) (pv v : Value) :
      refChild c b pv = .ok v → Reaches c (.mk b fb ks) pv (bodyName b) v
  | down (b : Body) (fb : Bool) (ks : List Node) (pv v1 : Value) (k : Node) (T : String) (v : Value) :
      refChild c b pv = .ok v1 → k ∈ ks → Reaches c k v1 T v → Reaches c (.mk b fb ks) pv T v

/-- `decPartialWith_eq` in the terms of the emitted `fromPayload`: `payloadOf`, `assemble` and the filter written out are
    `Value.payloadOctets`, `DState.valueWith` and `Value.copied` -/
theorem refChild_eq (c : Cfg) (nm : String) (parent : Body) (cs allCs : List (String × Nat)) (items : Items) (pv : Value) :
    refChild c (.derived nm parent cs allCs items) pv =
      if violated parent pv cs then .err .constraintValue
      else if parent.hasPayload then
        (Pdlv.decItems (ideal c) items (payloadOf pv) DState.empty).bind fun (st, rest) =>
          if rest.isEmpty then .ok (assemble st (pv.fields.filter fun (k, _) => k != "payload" && !(cs.any (·.1 == k))))
          else .err .trailingBytes
      else .ok (.obj (pv.fields.filter fun (k, _) => k != "payload" && !(cs.any (·.1 == k)))) :=
  decPartialWith_eq (fun bs => Pdlv.decItems (ideal c) items bs DState.empty) parent cs pv

/-- one level: the emitted parser of the child's own fields on the parent's payload, nothing left over, is the reference's
    `decode_partial` once the constraints hold -/
theorem own_step (c : Cfg) (nm : String) (parent : Body) (cs allCs : List (String × Nat)) (items : Items)
    (hp : parent.hasPayload = true) (hw : Java.decWfItems3 items = true) (pv : Value)
    (hv : violated parent pv cs = false) (hb : (payloadOf pv).length < 2 ^ 31) (st : DState) (rest : Bytes)
    (h0 : Java.decItemsS c.e items (payloadOf pv) DState.empty = .ok (st, rest)) (hr : rest.isEmpty = true) :
    refChild c (.derived nm parent cs allCs items) pv =
      .ok (assemble st (pv.fields.filter fun (k, _) => k != "payload" && !(cs.any (·.1 == k)))) := by
  obtain ⟨⟨sb, rb⟩, h3, h4, h5⟩ := (items_same3 c.e items hw (payloadOf pv) hb _ _ Java.relC_empty).1 _ h0
  simp only at h4 h5
  subst h5
  simp only [refChild_eq, hv, hp, Bool.false_eq_true, ↓reduceIte, ideal, h3, Outcome.ok_bind, hr, assemble, h4.1, h4.2.1]

/-- a successful `fromPayload`: the own fields parsed from the whole payload (which a `byte[]` can hold), then either the
    dispatch over the children or the child itself -/
theorem fromPayload_ok {c : Cfg} {nm : String} {parent : Body} {cs allCs : List (String × Nat)} {items : Items} {fb : Bool}
    {ks : List Node} {pv : Value} {T : String} {v : Value}
    (h : fromPayload c (.mk (.derived nm parent cs allCs items) fb ks) pv = .ok (T, v)) :
    ∃ st rest, (payloadOf pv).length < 2 ^ 31 ∧ Java.decItemsS c.e items (payloadOf pv) DState.empty = .ok (st, rest) ∧
      rest.isEmpty = true ∧
      (if items.hasPayload then
        dispatch c nm fb (assemble st (pv.fields.filter fun (k, _) => k != "payload" && !(cs.any (·.1 == k)))) ks = .ok (T, v)
       else (nm, assemble st (pv.fields.filter fun (k, _) => k != "payload" && !(cs.any (·.1 == k)))) = (T, v)) := by
  simp only [fromPayload, Outcome.ite_panic_eq_ok, Outcome.bind_ok_iff] at h
  obtain ⟨hlen, ⟨st, rest⟩, h1, h2⟩ := h
  refine ⟨st, rest, by omega, h1, ?_⟩
  by_cases hpl : items.hasPayload = true
  · simp only [hpl, ↓reduceIte, Outcome.bind_ok_iff, Outcome.ite_else_err_eq_ok] at h2 ⊢
    obtain ⟨r, hd, hre, hr⟩ := h2
    cases hr
    exact ⟨hre, hd⟩
  · simp only [hpl, Bool.false_eq_true, ↓reduceIte, Outcome.ite_else_err_eq_ok, Outcome.ok.injEq] at h2 ⊢
    exact h2

/-- the `if (fits) … else if (fits) …` chain, one link: a candidate that fits is committed to -/
theorem dispatch_cons_ok_iff {c : Cfg} {nm : String} {fb : Bool} {pv : Value} {k : Node} {ks : List Node} {r : String × Value} :
    dispatch c nm fb pv (k :: ks) = .ok r ↔
      (candidate k && fits pv k) = true ∧ fromPayload c k pv = .ok r ∨
      (candidate k && fits pv k) = false ∧ dispatch c nm fb pv ks = .ok r := by
  simp only [dispatch]
  split <;> simp [*]

mutual
theorem fromPayload_sound (c : Cfg) : ∀ (n : Node), wfNode n = true → ∀ (pv : Value) (T : String) (v : Value),
    fits pv n = true → fromPayload c n pv = .ok (T, v) → Reaches c n pv T v
  | .mk (.derived nm parent cs allCs items) fb ks, hw, pv, T, v, hf, h => by
    simp only [wfNode, Bool.and_eq_true] at hw
    simp only [fits, Bool.and_eq_true, Bool.not_eq_true'] at hf
    obtain ⟨st, rest, hlen, h1, hre, h2⟩ := fromPayload_ok h
    have hr := own_step c nm parent cs allCs items hw.1.1 hw.1.2 pv hf.1 hlen st rest h1 hre
    split at h2
    · rcases dispatch_sound c ks hw.2 nm fb _ T v h2 with ⟨_, hT, hv⟩ | ⟨k, hm, hreach⟩
      · subst hT; subst hv
        exact Reaches.here _ _ _ _ _ hr
      · exact Reaches.down _ _ _ _ _ k T v hr hm hreach
    · cases h2
      exact Reaches.here _ _ _ _ _ hr
  | .mk (.root nm items) fb ks, _, pv, T, v, _, h => by simp [fromPayload] at h

theorem dispatch_sound (c : Cfg) : ∀ (ks : List Node), wfNodes ks = true → ∀ (nm : String) (fb : Bool) (pv : Value)
    (T : String) (v : Value), dispatch c nm fb pv ks = .ok (T, v) →
      (fb = true ∧ T = nm ∧ v = pv) ∨ ∃ k, k ∈ ks ∧ Reaches c k pv T v
  | [], _, nm, fb, pv, T, v, h => by
    obtain ⟨hfb, h⟩ := Outcome.ite_else_err_eq_ok.mp h
    cases h
    exact Or.inl ⟨hfb, rfl, rfl⟩
  | k :: ks, hw, nm, fb, pv, T, v, h => by
    simp only [wfNodes, Bool.and_eq_true] at hw
    rcases dispatch_cons_ok_iff.mp h with ⟨hc, h⟩ | ⟨_, h⟩
    · simp only [Bool.and_eq_true] at hc
      exact Or.inr ⟨k, List.mem_cons_self .., fromPayload_sound c k hw.1 pv T v hc.2 h⟩
    · rcases dispatch_sound c ks hw.2 nm fb pv T v h with h1 | ⟨k', hm, hr⟩
      · exact Or.inl h1
      · exact Or.inr ⟨k', List.mem_cons_of_mem _ hm, hr⟩
end

theorem dispatch_fallback (c : Cfg) (nm : String) (fb : Bool) (pv : Value) : ∀ (ks : List Node),
    (∀ k, k ∈ ks → (candidate k && fits pv k) = false) → dispatch c nm fb pv ks = (if fb then .ok (nm, pv) else .err .constraintValue) := by
  intro ks
  induction ks with
  | nil => intro _; simp [dispatch]
  | cons k ks ih =>
    intro h
    simp only [dispatch, h k (List.mem_cons_self ..), Bool.false_eq_true, ↓reduceIte]
    exact ih (fun k' hk' => h k' (List.mem_cons_of_mem _ hk'))

/-- a result that is no candidate's: the chain ran through, so no candidate fitted (a fitting one is committed to) -/
theorem dispatch_none_fits (c : Cfg) (nm : String) (fb : Bool) (pv : Value) (T : String) (v : Value) : ∀ (ks : List Node),
    dispatch c nm fb pv ks = .ok (T, v) → (∀ k, k ∈ ks → ∀ r, fromPayload c k pv ≠ .ok r) →
      ∀ k, k ∈ ks → (candidate k && fits pv k) = false := by
  intro ks
  induction ks with
  | nil => intro _ _ k hk; simp at hk
  | cons k0 ks ih =>
    intro h hno k hk
    rcases dispatch_cons_ok_iff.mp h with ⟨_, h⟩ | ⟨hc, h⟩
    · exact absurd h (hno k0 (List.mem_cons_self ..) _)
    · rcases List.mem_cons.mp hk with rfl | hk
      · exact hc
      · exact ih h (fun k' hk' => hno k' (List.mem_cons_of_mem _ hk')) k hk

/-- `field_width()` of a node is eight times the octets the reference's parser of the own fields consumes -/
theorem ownWidth_static3 : ∀ (is : Items) (w : Nat), Java.decWfItems3 is = true → ownWidth is = some w →
    ∃ n, staticItems is = some n ∧ w = 8 * n ∧ localWfItems is = true := by
  intro is
  induction is using Items.induction with
  | nil =>
    intro w _ h
    simp only [ownWidth, Option.some.injEq] at h
    exact ⟨0, rfl, by omega, rfl⟩
  | cons i r ih =>
    intro w hw h
    obtain ⟨hi, hwr⟩ := Java.decWfItems3_cons i r hw
    -- every kind of field with a width: the rest has one too, and the induction hypothesis applies to it
    have rest : ∀ wi, (ownWidth r).map (wi + ·) = some w →
        ∃ n, staticItems r = some n ∧ w = wi + 8 * n ∧ localWfItems r = true := by
      intro wi h'
      obtain ⟨w', hw', rfl⟩ := Option.map_eq_some_iff.mp h'
      obtain ⟨n, hn, rfl, hl⟩ := ih w' hwr hw'
      exact ⟨n, hn, rfl, hl⟩
    cases hi with
    | struct id nm snm sitems k h1 h2 h3 h4 =>
      obtain ⟨n, hn, rfl, hl⟩ := rest _ h
      exact ⟨k + n, by simp only [staticItems, staticItem, staticTy, staticBody, h3, hn],
        by rw [Nat.mul_add, Nat.mul_comm 8 k],
        by simp only [localWfItems, localWfItem, localWfTy, h4, hl, Bool.and_self]⟩
    | base _ hi =>
      cases hi with
      | chunk fs h1 h2 =>
        have h8 := (Java.width_octets (h2.imp_right (Or.imp_right (Or.inl (b := chunkBits fs = 64))))).2.2.2.1
        clear h2
        obtain ⟨n, hn, rfl, hl⟩ := rest _ h
        exact ⟨chunkBits fs / 8 + n, by simp only [staticItems, staticItem, hn], by rw [Nat.mul_add, h8],
          by simp only [localWfItems, localWfItem, hl, Bool.and_self]⟩
      | payload m _ => simp [ownWidth] at h
      | scalars _ _ shape _ | enums _ _ _ shape _ =>
        cases shape with
        | static cnt =>
          obtain ⟨n, hn, rfl, hl⟩ := rest _ h
          exact ⟨_, by simp only [staticItems, staticItem, staticTy, Option.map_some, hn]; rfl,
            by rw [Nat.mul_add, Nat.mul_comm 8 (cnt * _)],
            by simp only [localWfItems, localWfItem, localWfTy, staticTy, hl, Bool.and_self, beq_self_eq_true]⟩
        | _ => simp [ownWidth] at h

theorem ownWidth_static : ∀ (is : Items) (w : Nat), Java.decWfItems2 is = true → ownWidth is = some w →
    ∃ n, staticItems is = some n ∧ w = 8 * n ∧ localWfItems is = true :=
  fun is w hw h => ownWidth_static3 is w (Java.decWfItems3_of_decWfItems2 is hw) h

theorem unfit_width (c : Cfg) (nm : String) (parent : Body) (cs allCs : List (String × Nat)) (items : Items)
    (hp : parent.hasPayload = true) (hwi : Java.decWfItems3 items = true) (w : Nat) (how : ownWidth items = some w) (pv : Value)
    (hne : ((payloadOf pv).length == w / 8) = false) (v : Value) :
    refChild c (.derived nm parent cs allCs items) pv ≠ .ok v := by
  intro h
  obtain ⟨n, hn, rfl, hl⟩ := ownWidth_static3 items w hwi how
  simp only [refChild_eq, hp, ↓reduceIte, Outcome.ite_err_eq_ok, Outcome.bind_ok_iff, Outcome.ite_else_err_eq_ok] at h
  -- the own fields consume exactly `n` octets and nothing is left over: the payload has `n`
  obtain ⟨_, ⟨st', rest'⟩, h1, hre, _⟩ := h
  have hx := decItems_exact_len (ideal c) items n DState.empty hn hl _ st' rest' h1
  have : rest'.length = 0 := by simpa using hre
  have : (payloadOf pv).length = 8 * n / 8 := by omega
  simp [this] at hne

end JavaSpec
end Pdlv
