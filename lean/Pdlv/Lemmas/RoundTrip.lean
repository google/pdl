/-
  Pdlv.Lemmas.RoundTrip — encode ; decode = id (C02), one construct at a time.  The decoder is run on what the
  reference-mode encoder wrote, with the invariant `CtxGood`: every entry of the decoder context has the meaning
  `Good` gives it relative to the value being encoded (a size is the octet size the encoder computed, a count the
  length of the array, a flag the presence of the optional fields it governs).  Bit-field groups establish it,
  arrays, payload and optional fields consume it; `ItemPost` is what one item leaves in the decoder state.
-/
import Pdlv.Lemmas.Dec
import Pdlv.Lemmas.ChunkEnc
import Pdlv.Lemmas.ArrPlan

namespace Pdlv

/-- `all`: the field list being encoded, `pl`: the octet length of its payload, `v`: the value -/
def Good (all : Items) (pl : Nat) (v : Value) : Key → Nat → Prop
  | .size t, x =>
    (t = "_payload_" → ∀ m, payloadMode all = some (.sized m) → x = pl + m) ∧
    (t ≠ "_payload_" → ∀ elem ew vs, firstArray all t = some (elem, ew) → v.get? t = some (.arr vs) →
        x = sumLen (lenTy elem) vs)
  | .count t, x => ∀ vs, v.get? t = some (.arr vs) → x = vs.length
  | .esize t, x => ∀ elem ew vs, firstArray all t = some (elem, ew) → v.get? t = some (.arr vs) →
      (∀ y ∈ vs, lenTy elem y = x) ∧ (vs = [] → x = 0)
  | .val id, x => ∀ oid cval, (id, oid, cval) ∈ optItems all → (isPresent v oid = true ↔ x = cval)

def CtxGood (all : Items) (pl : Nat) (v : Value) (st : DState) : Prop :=
  ∀ k x, st.ctx.get k = some x → Good all pl v k x

theorem ctxGood_extend (all : Items) (pl : Nat) (v : Value) (st : DState) (ks : List (Key × Nat))
    (vs : List (String × Value)) (hg : CtxGood all pl v st) (hk : ∀ p ∈ ks, Good all pl v p.1 p.2) :
    CtxGood all pl v (st.extend ks vs) := by
  intro k x hget
  rw [DState.extend_get] at hget
  cases hl : ks.lookup k with
  | some y =>
    rw [hl] at hget
    obtain rfl : y = x := Option.some.inj hget
    obtain ⟨l₁, l₂, rfl, _⟩ := List.lookup_eq_some_iff.mp hl
    exact hk (k, y) (by simp)
  | none => rw [hl] at hget; exact hg k x hget

theorem bf_rt (ideal : Bool) (all : Items) (pl : Nat) (v : Value) (f : BitField) (x : Nat)
    (hbf : bfRtOk all f = true) (hnomod : bfNoArrayMod f = true) (h : bfEnc true all pl v f = .ok x) :
    x < 2 ^ f.width ∧ f.reject ideal x = none ∧ f.yields x = canonChunk v [f] ∧
      ∀ p ∈ f.binds ideal x, Good all pl v p.1 p.2 := by
  -- a scalar or enum field governs no optional field
  have plain : ∀ id, (optItems all).all (fun (cid, _, _) => cid != id) = true → Good all pl v (.val id) x := by
    intro id hbf oid cval hmem
    have := List.all_eq_true.mp hbf (id, oid, cval) hmem
    simp at this
  cases f with
  | scalar id w =>
    obtain ⟨hget, _, hlt⟩ := bfEnc_scalar_ok_iff.mp h
    exact ⟨hlt, rfl, by simp [BitField.yields, canonChunk, hget], by simpa [BitField.binds] using plain id hbf⟩
  | enumTy id ty e =>
    obtain ⟨hget, hok⟩ := bfEnc_enumTy_ok_iff.mp h
    exact ⟨enumOk_lt e x hok, by simp [BitField.reject, hok], by simp [BitField.yields, canonChunk, hget],
      by simpa [BitField.binds] using plain id hbf⟩
  | fixed w c =>
    cases h
    exact ⟨by simpa [bfRtOk, BitField.width] using hbf, by simp [BitField.reject], rfl, by simp [BitField.binds]⟩
  | reserved w =>
    cases h
    exact ⟨Nat.two_pow_pos _, rfl, rfl, by simp [BitField.binds]⟩
  | flag id opts =>
    simp only [bfRtOk, Bool.and_eq_true, List.all_eq_true, decide_eq_true_eq] at hbf
    obtain ⟨hne, hall⟩ := (bfEnc_flag_ok_iff hbf.1).mp h
    have hx : x ≤ 1 := by
      cases opts with
      | nil => exact absurd rfl hne
      | cons o r => exact hall o (List.mem_cons_self ..) ▸ vote_le_one (hbf.1 o (List.mem_cons_self ..))
    refine ⟨by simp only [BitField.width]; omega, rfl, rfl, ?_⟩
    simp only [BitField.binds, List.mem_singleton, forall_eq, Good]
    intro fid cval hmem
    have hin : (fid, cval) ∈ opts := by simpa using hbf.2 (id, fid, cval) hmem
    exact (vote_eq_iff v fid cval x (hbf.1 _ hin) hx).mp (hall _ hin)
  | size t w md =>
    obtain ⟨s0, hs0, rfl, hlt⟩ := bfEnc_size_ok_iff.mp h
    simp only [bfRtOk, Bool.and_eq_true, bne_iff_ne, ne_eq, Bool.or_eq_true, beq_iff_eq] at hbf
    obtain ⟨⟨hnb, hpm⟩, _⟩ := hbf
    refine ⟨hlt, ?_, rfl, ?_⟩
    · simp only [BitField.reject]
      split
      · exact if_neg (by omega)
      · rfl
    simp only [BitField.binds, List.mem_singleton, forall_eq]
    by_cases hpay : t = "_payload_"
    · subst hpay
      obtain rfl : pl = s0 := Outcome.ok.inj ((sizeOfTarget_payload all pl v).symm.trans hs0)
      simp only [ne_eq, not_true_eq_false, and_false, ↓reduceIte]
      refine ⟨fun _ m' hm' => ?_, fun hne => absurd rfl hne⟩
      rcases hpm with hh | hh
      · exact absurd rfl hh
      · rw [hm'] at hh
        cases hh; rfl
    · -- an array's size field carries no modifier in the class
      have hmd : md = 0 := by simpa [bfNoArrayMod, hpay, hnb] using hnomod
      subst hmd
      obtain ⟨elem, ew, vs, hfa, hget, rfl⟩ := (sizeOfTarget_array hpay hnb).mp hs0
      simp only [Nat.add_zero, Nat.sub_zero, ite_self]
      refine ⟨fun hh => absurd hh hpay, fun _ elem' ew' vs' hfa' hget' => ?_⟩
      rw [hfa] at hfa'; rw [hget] at hget'
      cases hfa'; cases hget'; rfl
  | count t w =>
    simp only [bfRtOk, Bool.and_eq_true, decide_eq_true_eq] at hbf
    obtain ⟨vs, hget, rfl, hlt⟩ := (bfEnc_count_ok_iff (by omega)).mp h
    refine ⟨hlt, rfl, rfl, ?_⟩
    simp only [BitField.binds, List.mem_singleton, forall_eq, Good]
    intro vs' hget'
    rw [hget] at hget'
    cases hget'; rfl
  | elemSize t w =>
    obtain ⟨vs, elem, ew, hget, hfa, hall, h0, hlt⟩ := bfEnc_elemSize_ok_iff.mp h
    refine ⟨hlt, rfl, rfl, ?_⟩
    simp only [BitField.binds, List.mem_singleton, forall_eq, Good]
    intro elem' ew' vs' hfa' hget'
    rw [hfa] at hfa'; rw [hget] at hget'
    cases hfa'; cases hget'
    exact ⟨hall, h0⟩

theorem chunk_rt_core (ideal : Bool) (all : Items) (pl : Nat) (v : Value) (fs : List BitField) (N : Nat)
    (hwf : ∀ f ∈ fs, bfRtOk all f = true ∧ bfNoArrayMod f = true)
    (h : packInt (bfEnc true all pl v) fs = .ok N) :
    chunkReject ideal fs N = none ∧ chunkYields fs N = canonChunk v fs ∧
      ∀ p ∈ chunkBinds ideal fs N, Good all pl v p.1 p.2 := by
  induction fs generalizing N with
  | nil =>
    cases h
    exact ⟨rfl, rfl, by simp [chunkBinds]⟩
  | cons f fs ih =>
    obtain ⟨x, N', hx, hN', rfl⟩ := packInt_cons_ok_iff.mp h
    obtain ⟨hlt, hrej, hy, hb⟩ := bf_rt ideal all pl v f x (hwf f (List.mem_cons_self ..)).1 (hwf f (List.mem_cons_self ..)).2 hx
    obtain ⟨hrej', hy', hb'⟩ := ih N' (fun g hg => hwf g (List.mem_cons_of_mem _ hg)) hN'
    simp only [chunkReject, chunkYields, chunkBinds, digit_mod N' hlt, digit_div N' hlt, hrej', hy, hy']
    refine ⟨by rw [hrej]; rfl, (canonChunk_cons v f fs).symm, fun p hp => ?_⟩
    rcases List.mem_append.mp hp with hp | hp
    · exact hb' p hp
    · exact hb p hp

def ItemPost (all : Items) (pl : Nat) (v : Value) (i : Item) (p : Bytes) (st st' : DState) : Prop :=
  st'.fields = st.fields ++ canonItem i v ∧
  st'.payload = (match i with | .payload _ => some p | _ => st.payload) ∧
  CtxGood all pl v st'

theorem chunk_rt (ce cd : Cfg) (hce : ce.mode = .ideal) (hee : ce.e = cd.e) (all : Items) (pe : Enc Bytes) (pl : Nat)
    (v : Value) (p : Bytes) (fs : List BitField) (bs rest : Bytes) (st : DState) (h8 : chunkBits fs % 8 = 0)
    (hwf : ∀ f ∈ fs, bfRtOk all f = true ∧ bfNoArrayMod f = true)
    (he : encItem ce all pe pl v (.chunk fs) = .ok bs) (hg : CtxGood all pl v st) :
    ∃ st', decItem cd (.chunk fs) (bs ++ rest) st = .ok (st', rest) ∧ ItemPost all pl v (.chunk fs) p st st' := by
  obtain ⟨_, hX, rfl⟩ := encItem_chunk_ok_iff.mp he
  simp only [hce, BEq.rfl, encChunkFields_eq, Outcome.bind_ok_iff, Outcome.ok.injEq, Nat.pow_zero, Nat.one_mul,
    Nat.zero_add] at hX
  obtain ⟨N, hN, rfl⟩ := hX
  obtain ⟨hrej, hy, hb⟩ := chunk_rt_core (cd.mode == .ideal) all pl v fs N hwf hN
  have hlt : N < 2 ^ chunkBits fs :=
    packInt_lt (fun f hf x hx => (bf_rt true all pl v f x (hwf f hf).1 (hwf f hf).2 hx).1) hN
  obtain ⟨hlen, hN', hrest⟩ := getUint_ok_iff.mp (getUint_putUint_bits cd.e (chunkBits fs) N rest h8 hlt)
  refine ⟨st.extend (chunkBinds (cd.mode == .ideal) fs N) (chunkYields fs N), ?_, congrArg (st.fields ++ ·) hy, rfl,
    ctxGood_extend all pl v st _ _ hg hb⟩
  rw [hee]
  refine decChunk_ok_iff.mpr ⟨hlen, hrest, ?_⟩
  rw [← hN', decChunkFields_eq, Nat.pow_zero, Nat.div_one, hrej]

/-- the element decoder inverts the element encoder and leaves what follows untouched (inputs
    shorter than `usize::MAX`, as every real buffer is) -/
def ElemRT (enc : Value → Enc Bytes) (dec : Bytes → Dec (Value × Bytes)) (canon : Value → Value) : Prop :=
  ∀ x bs rest, (bs ++ rest).length < usizeMax → enc x = .ok bs → dec (bs ++ rest) = .ok (canon x, rest)

theorem repeat_rt (enc : Value → Enc Bytes) (dec : Bytes → Dec (Value × Bytes)) (canon : Value → Value)
    (h : ElemRT enc dec canon) :
    ∀ (vs : List Value) (es rest : Bytes), (es ++ rest).length < usizeMax → encListWith enc vs = .ok es →
      decRepeat dec vs.length (es ++ rest) = .ok (vs.map canon, rest) := by
  intro vs
  induction vs with
  | nil => intro es rest _ he; simp [encListWith] at he; simp [decRepeat, ← he]
  | cons x xs ih =>
    intro es rest hb he
    obtain ⟨a, b, ha, hb', rfl⟩ := encListWith_cons_ok_iff.mp he
    have h1 := h x a (b ++ rest) (by simpa [List.append_assoc] using hb) ha
    have h2' := ih b rest (by simp only [List.length_append] at hb ⊢; omega) hb'
    rw [List.append_assoc]
    exact decRepeat_succ_ok_iff.mpr ⟨_, _, _, h1, h2', rfl⟩

theorem while_rt (enc : Value → Enc Bytes) (dec : Bytes → Dec (Value × Bytes)) (canon : Value → Value)
    (h : ElemRT enc dec canon) (hne : ∀ x bs, enc x = .ok bs → bs ≠ []) :
    ∀ (vs : List Value) (es : Bytes) (fuel : Nat), es.length < usizeMax → es.length < fuel →
      encListWith enc vs = .ok es → decWhile dec fuel es = .ok (vs.map canon) := by
  intro vs
  induction vs with
  | nil =>
    intro es fuel _ hf he
    simp [encListWith] at he
    subst he
    cases fuel with
    | zero => exact absurd hf (Nat.not_lt_zero _)
    | succ f => exact decWhile_succ_ok_iff.mpr (.inl ⟨rfl, rfl⟩)
  | cons x xs ih =>
    intro es fuel hb hf he
    obtain ⟨a, b, ha, hb', rfl⟩ := encListWith_cons_ok_iff.mp he
    have hane := hne x a ha
    have halen : 0 < a.length := List.length_pos_iff.mpr hane
    cases fuel with
    | zero => exact absurd hf (Nat.not_lt_zero _)
    | succ f =>
      have h1 := h x a b (by simpa using hb) ha
      simp only [List.length_append] at hb hf
      have h2' := ih b f (Nat.lt_of_le_of_lt (Nat.le_add_left ..) hb) (by omega) hb'
      exact decWhile_succ_ok_iff.mpr (.inr ⟨_, _, _, h1,
        by rw [List.length_append]; exact Nat.lt_add_of_pos_left halen, h2', rfl⟩)

/-- the array cases without element-size field (element width static or unknown × the four shapes): given the
    count / size the encoder wrote, the emitted loops read back exactly the elements and leave the rest -/
theorem array_rt (m : Mode) (enc : Value → Enc Bytes) (dec : Bytes → Dec (Value × Bytes)) (canon : Value → Value)
    (hrt : ElemRT enc dec canon) (ew : ElemWidth) (shape : Shape) (cnt siz esz : Option Nat)
    (vs : List Value) (es rest : Bytes) (hb : (es ++ rest).length < usizeMax)
    (he : encListWith enc vs = .ok es) (hf : ArrFacts ew shape cnt siz vs es rest)
    (hstat : ∀ w, ew = .static w → 0 < w ∧ ∀ x b, enc x = .ok b → b.length = w)
    (hunk : ew = .unknown → ∀ x b, enc x = .ok b → b ≠ []) :
    decArray m dec ew shape cnt siz esz (es ++ rest) = .ok (vs.map canon, rest) := by
  rw [decArray_eq_runArr, arrPlan_of_facts m ew shape cnt siz esz vs es rest hb hf
    (fun w hw => ⟨(hstat w hw).1, encListWith_length_const (hstat w hw).2 he⟩)]
  split
  · rename_i hc
    have hes : es.length < usizeMax := by simp only [List.length_append] at hb; omega
    simp only [runArr, List.take_left', List.drop_left',
      while_rt enc dec canon hrt (hunk hc.1) vs es (es.length + 1) hes (by omega) he, Outcome.ok_bind]
  · exact repeat_rt enc dec canon hrt vs es rest hb he

theorem payload_item_rt (ce cd : Cfg) (all : Items) (p : Bytes) (v : Value) (mode : PayloadMode)
    (hpm : payloadMode all = some mode) (a rest : Bytes) (st : DState)
    (he : encItem ce all (.ok p) p.length v (.payload mode) = .ok a) (hg : CtxGood all p.length v st)
    (hkey : ∀ m, mode = .sized m → ∃ sz, st.ctx.get (.size "_payload_") = some sz)
    (hlast : mode = .last → rest = []) (hbs : ∀ k, mode = .beforeStatic k → rest.length = k)
    (hund : mode ≠ .undelimited) :
    ∃ st', decItem cd (.payload mode) (a ++ rest) st = .ok (st', rest) ∧
      ItemPost all p.length v (.payload mode) p st st' := by
  rw [encPayload_verbatim] at he
  cases he
  refine ⟨{ st with payload := some p }, ?_, by simp [canonItem], rfl, hg⟩
  cases mode with
  | sized m =>
    obtain ⟨sz, hsz⟩ := hkey m rfl
    have hgood := (hg _ _ hsz).1 rfl m hpm
    subst hgood
    have h1 : ¬ p.length + m < m := Nat.not_lt.mpr (Nat.le_add_left _ _)
    have h2 : p.length + m - m = p.length := Nat.add_sub_cancel _ _
    have h3 : ¬ (p ++ rest).length < p.length := by
      rw [List.length_append]; exact Nat.not_lt.mpr (Nat.le_add_right _ _)
    simp only [decItem, hsz, h1, ↓reduceIte, h2, h3, List.take_left', List.drop_left']
  | last => simp only [decItem, hlast rfl, List.append_nil]
  | beforeStatic k =>
    have hk := hbs k rfl
    have h1 : ¬ (p ++ rest).length < k := by
      rw [List.length_append, hk]; exact Nat.not_lt.mpr (Nat.le_add_left _ _)
    have h2 : (p ++ rest).length - k = p.length := by rw [List.length_append, hk, Nat.add_sub_cancel]
    simp only [decItem, h1, ↓reduceIte, h2, List.take_left', List.drop_left']
  | undelimited => exact absurd rfl hund

theorem optional_item_rt (ce cd : Cfg) (hce : ce.mode = .ideal) (all : Items) (pe : Enc Bytes) (pl : Nat)
    (v : Value) (p : Bytes) (id : String) (ty : Ty) (cid : String) (cval : Nat)
    (hrt : ElemRT (encTy ce ty) (decTy cd ty) (canonTy ty))
    (hmem : (cid, id, cval) ∈ optItems all)
    (a rest : Bytes) (st : DState) (hb : (a ++ rest).length < usizeMax)
    (he : encItem ce all pe pl v (.optional id ty cid cval) = .ok a) (hg : CtxGood all pl v st)
    (hkey : ∃ cv, st.ctx.get (.val cid) = some cv) :
    ∃ st', decItem cd (.optional id ty cid cval) (a ++ rest) st = .ok (st', rest) ∧
      ItemPost all pl v (.optional id ty cid cval) p st st' := by
  obtain ⟨cv, hcv⟩ := hkey
  have hflag := hg _ _ hcv id cval hmem
  by_cases hp : isPresent v id = true
  · -- present: the flag has the condition value
    obtain ⟨x, hx, hnn⟩ := isPresent_true_iff.mp hp
    rw [encItem_optional_ideal hce hx hnn] at he
    exact ⟨_, decItem_optional_read (hflag.mp hp ▸ hcv) (hrt x a rest hb he),
      by simp only [canonItem, hp, ↓reduceIte, hx, Option.getD_some], rfl, hg⟩
  · -- absent: the flag has the other value
    have hp' : isPresent v id = false := by simpa using hp
    have hne : ¬ cv = cval := fun h => hp (hflag.mpr h)
    rw [encItem_optional_absent hp'] at he
    cases he
    refine ⟨_, decItem_optional_skip hcv hne, ?_, rfl, hg⟩
    simp only [canonItem, hp', Bool.false_eq_true, ↓reduceIte]

theorem withPad_rt (pad : Option Nat) (k : Bytes → Dec (List Value × Bytes)) (es rest : Bytes) (a : Bytes)
    (vs' : List Value) (hpad : padTo pad es = .ok a)
    (hk : ∀ r, (pad = none → r = rest) → (∀ q, pad = some q → r = zeros (q - es.length) ∧ es.length ≤ q) →
      (es ++ r).length ≤ (a ++ rest).length → k (es ++ r) = .ok (vs', r)) :
    withPad pad (a ++ rest) k = .ok (vs', rest) := by
  unfold withPad
  cases pad with
  | none =>
    cases hpad
    exact hk rest (fun _ => rfl) (fun _ h => nomatch h) (Nat.le_refl _)
  | some q =>
    have hlen : a.length = q := padTo_length hpad
    obtain ⟨hle, rfl⟩ := padTo_ok_iff.mp hpad
    simp only [Option.getD_some] at hlen ⊢
    have h1 : ¬ (es ++ zeros (q - es.length) ++ rest).length < q := by
      rw [List.length_append, hlen]; exact Nat.not_lt.mpr (Nat.le_add_right _ _)
    simp only [h1, ↓reduceIte, List.take_left' hlen, List.drop_left' hlen]
    rw [hk (zeros (q - es.length)) (fun h => by cases h) (fun q' h => by cases h; exact ⟨rfl, hle q rfl⟩)
      (by rw [Option.getD_some, List.length_append (bs := rest)]; exact Nat.le_add_right _ _)]
    rfl

theorem array_item_rt (ce cd : Cfg) (all : Items) (pe : Enc Bytes) (pl : Nat) (v : Value) (p : Bytes)
    (id : String) (elem : Ty) (ew : ElemWidth) (shape : Shape) (pad : Option Nat)
    (hrt : ElemRT (encTy ce elem) (decTy cd elem) (canonTy elem))
    (hlen : ∀ x b, encTy ce elem x = .ok b → b.length = lenTy elem x)
    (hstat : ∀ w, ew = .static w → 0 < w ∧ ∀ x b, encTy ce elem x = .ok b → b.length = w)
    (hunk : ew = .unknown → ∀ x b, encTy ce elem x = .ok b → b ≠ [])
    (hnd : ew ≠ .dynamic) (hfa : firstArray all id = some (elem, ew)) (hidp : id ≠ "_payload_")
    (a rest : Bytes) (st : DState) (hb : (a ++ rest).length < usizeMax)
    (he : encItem ce all pe pl v (.array id elem ew shape pad) = .ok a) (hg : CtxGood all pl v st)
    (hkeys : arrayKeysOk ew shape (st.ctx.get (.count id)) (st.ctx.get (.size id)) (st.ctx.get (.esize id)) = true)
    (hgreedy : shape = .unknown → pad = none ∧ rest = []) :
    ∃ st', decItem cd (.array id elem ew shape pad) (a ++ rest) st = .ok (st', rest) ∧
      ItemPost all pl v (.array id elem ew shape pad) p st st' := by
  obtain ⟨vs, es, hget, hcc, _, hes, hpad⟩ := encItem_array_ok_iff.mp he
  have heslen : es.length = sumLen (lenTy elem) vs := encListWith_length (encTy ce elem) (lenTy elem) hlen vs es hes
  -- the context entries the decoder reads are the count and size of this encoding
  obtain ⟨hkc, hks, _⟩ := arrayKeysOk_iff.mp hkeys
  have hcnt : shape = .countField → st.ctx.get (.count id) = some vs.length := by
    intro hs
    obtain ⟨x, hx⟩ := Option.isSome_iff_exists.mp (hkc hs)
    rw [hx, (hg _ _ hx) vs hget]
  have hsiz : shape = .sizeField → st.ctx.get (.size id) = some es.length := by
    intro hs
    obtain ⟨x, hx⟩ := Option.isSome_iff_exists.mp (hks hs)
    rw [hx, (hg _ _ hx).2 hidp elem ew vs hfa hget, heslen]
  have hwp := withPad_rt pad (decArray cd.mode (decTy cd elem) ew shape (st.ctx.get (.count id))
      (st.ctx.get (.size id)) (st.ctx.get (.esize id))) es rest a (vs.map (canonTy elem)) hpad (by
    intro r hr1 hr2 hle
    refine array_rt cd.mode (encTy ce elem) (decTy cd elem) (canonTy elem) hrt ew shape _ _ _ vs es r
      (Nat.lt_of_le_of_lt hle hb) hes ⟨hcnt, hsiz, hcc, ?_, hnd⟩ hstat hunk
    · intro hs
      obtain ⟨hp1, hr⟩ := hgreedy hs
      rw [hr1 hp1, hr])
  refine ⟨_, decItem_array_ok_iff.mpr ⟨hkeys, _, hwp, rfl⟩, ?_, rfl, hg⟩
  simp only [canonItem, hget, Option.bind_some, Value.asList?, Option.getD_some]

end Pdlv
