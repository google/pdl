/-
  Pdlv.Lemmas.RefBits — the arithmetic that connects the bit-level reference `Pdlv.Ref` with the
  shift / or / `put_uint` formulation of the emitted code.
-/
import Pdlv.Ref

namespace Pdlv
namespace Ref

theorem natOfBits_bitsOf (w n : Nat) : natOfBits (bitsOf w n) = n % 2 ^ w := by
  induction w generalizing n with
  | zero => simp [bitsOf, natOfBits, Nat.mod_one]
  | succ w ih =>
    simp only [bitsOf, natOfBits, ih]
    rw [Nat.pow_succ', Nat.mod_mul]
    have : (if (n % 2 == 1) = true then 1 else 0) = n % 2 := by
      have := Nat.mod_two_eq_zero_or_one n
      rcases this with h | h <;> simp [h]
    rw [this]

theorem bitsOf_length (w n : Nat) : (bitsOf w n).length = w := by
  induction w generalizing n with
  | zero => rfl
  | succ w ih => simp [bitsOf, ih]

/-- **Consecutive bit-fields are packed least-significant-bit first**: the bit stream of a
    field followed by the bit stream of the rest is the bit stream of `v + 2^w * rest`
    (the number `packInt` computes for the group: Lemmas/ChunkEnc). -/
theorem bitsOf_append (w w' v n : Nat) (hv : v < 2 ^ w) :
    bitsOf w v ++ bitsOf w' n = bitsOf (w + w') (v + 2 ^ w * n) := by
  induction w generalizing v with
  | zero =>
    have : v = 0 := by simpa using hv
    subst this; simp [bitsOf]
  | succ w ih =>
    rw [Nat.add_right_comm w 1 w']
    simp only [bitsOf, List.cons_append]
    have h2 : 2 ^ (w + 1) = 2 * 2 ^ w := Nat.pow_succ'
    have hmod : (v + 2 ^ (w + 1) * n) % 2 = v % 2 := by
      rw [h2, Nat.mul_assoc, Nat.add_mul_mod_self_left]
    have hdiv : (v + 2 ^ (w + 1) * n) / 2 = v / 2 + 2 ^ w * n := by
      rw [h2, Nat.mul_assoc, Nat.add_mul_div_left _ _ (by decide : 0 < 2)]
    rw [hmod, hdiv, ih (v / 2) (Nat.div_lt_of_lt_mul (h2 ▸ hv))]

/-- cutting the bit stream of an `8k`-bit number into octets gives its little-endian bytes:
    the group is written in the file's byte order (`put_uint_le`); `groupBytes_eq_putUint` has both orders -/
theorem bytesOfBits_bitsOf (k n : Nat) : bytesOfBits k (bitsOf (8 * k) n) = toLE k n := by
  induction k generalizing n with
  | zero => rfl
  | succ k ih =>
    have h8 : 8 * (k + 1) = 8 + 8 * k := by rw [Nat.mul_succ, Nat.add_comm]
    rw [h8]
    have hsplit : bitsOf (8 + 8 * k) n = bitsOf 8 (n % 256) ++ bitsOf (8 * k) (n / 256) := by
      have := bitsOf_append 8 (8 * k) (n % 256) (n / 256) (Nat.mod_lt _ (by decide))
      rw [this]
      congr 1
      have := Nat.mod_add_div n 256
      simpa using this.symm
    rw [hsplit]
    simp only [bytesOfBits, toLE]
    have hl : (bitsOf 8 (n % 256)).length = 8 := bitsOf_length _ _
    rw [List.take_left' hl, List.drop_left' hl, ih, natOfBits_bitsOf]
    congr 2
    exact Nat.mod_eq_of_lt (Nat.mod_lt _ (by decide))

/-- **A group of `8k` bits holding the number `n` is written exactly as the emitted code writes it**:
    `put_uint_le(n, k)` for little-endian files, `put_uint(n, k)` for big-endian ones. -/
theorem groupBytes_eq_putUint (e : Endian) (k n : Nat) :
    groupBytes e (bitsOf (8 * k) n) = putUint e (8 * k) n := by
  unfold groupBytes putUint
  simp only [bitsOf_length]
  have hk : 8 * k / 8 = k := Nat.mul_div_cancel_left k (by decide)
  rw [hk, bytesOfBits_bitsOf]
  cases e <;> simp [toBE]

theorem reserved_zero (w : Nat) : natOfBits (bitsOf w 0) = 0 := by
  rw [natOfBits_bitsOf]; simp

theorem padding_zero (k : Nat) : ∀ b ∈ zeros k, b = 0 := by
  intro b hb; simp [zeros] at hb; exact hb.2

/-- non-vacuity / sanity: two fields `a: 3 = 5`, `b: 5 = 17` give the octet `0x8d` -/
example : groupBytes .little (bitsOf 3 5 ++ bitsOf 5 17) = [0x8d] := by rfl
example : putUint .big 16 0x1234 = [0x12, 0x34] := by rfl

theorem bytesOfBits_length (k : Nat) (bits : List Bool) : (bytesOfBits k bits).length = k := by
  induction k generalizing bits with
  | zero => rfl
  | succ k ih => simp [bytesOfBits, ih]

/-- a byte-aligned group of n bits is n / 8 octets, in either byte order -/
theorem groupBytes_length (e : Endian) (bits : List Bool) : (groupBytes e bits).length = bits.length / 8 := by
  unfold groupBytes
  cases e <;> simp [bytesOfBits_length]

/-- a scalar / enum / custom value of width 8k is written by the reference exactly as
    `put_uint{_le}` writes it -/
theorem encTy_scalar_eq_putUint (e : Endian) (k x : Nat) (h : fits (8 * k) x = true) :
    encTy e (.scalar (8 * k)) (.int x) = some (putUint e (8 * k) x) := by
  simp only [encTy, h, ↓reduceIte, groupBytes_eq_putUint]

end Ref
end Pdlv
