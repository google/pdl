/-
  Pdlv.Lemmas.PySpecAgree — whatever the try-each-child specialization of the Python back end returns
  (`Pdlv.PySpec`) is reached by the reference's `decode_partial`, step by step, with the same field values; and
  when it returns the packet itself, the reference accepts none of the children it tried.
-/
import Pdlv.PySpec
import Pdlv.Lemmas.PyAgree

namespace Pdlv
namespace PySpec

open Py (Same ideal)

/-- the reference's `Child::decode_partial(&parent)` for a node of the tree -/
def refChild (c : Cfg) : Body → Value → Dec Value
  | .derived _ parent cs _ items, pv =>
    decPartialWith (fun bs => Pdlv.decItems (ideal c) items bs DState.empty) parent cs pv
  | .root .., _ => .panic .badLayout

/-- the reference reaches packet `T` with value `v` from this node, one `decode_partial` per level -/
inductive Reaches (c : Cfg) : Node → Value → String → Value → Prop
  | here (b : Body) (e : List (String × Nat)) (ks : List Node) (pv v : Value) :
      refChild c b pv = .ok v → Reaches c (.mk b e ks) pv (bodyName b) v
  | down (b : Body) (e : List (String × Nat)) (ks : List Node) (pv v1 : Value) (k : Node) (T : String) (v : Value) :
      refChild c b pv = .ok v1 → k ∈ ks → Reaches c k v1 T v → Reaches c (.mk b e ks) pv T v

theorem step_same (c : Cfg) (parent : Body) (cs : List (String × Nat)) (items : Items) (hw : Py.wfItems items = true)
    (pv : Value) :
    Same (decPartialWith (fun bs => Py.decItems c items false bs DState.empty) parent cs pv)
      (decPartialWith (fun bs => Pdlv.decItems (ideal c) items bs DState.empty) parent cs pv) :=
  (Cxx.decPartialWith_ref (fun bs => Py.items_refines c items hw false bs DState.empty) parent cs pv).same

theorem kids_sound (c : Cfg) (ks : List Node)
    (ih : ∀ k ∈ ks, wfNode k = true → ∀ (pv : Value) (T : String) (v : Value), child c k pv = .ok (T, v) → Reaches c k pv T v)
    (hw : wfNodes ks = true) (pv : Value) (T : String) (v : Value) (h : kids c ks pv = some (T, v)) :
    ∃ k, k ∈ ks ∧ Reaches c k pv T v := by
  induction ks with
  | nil => simp [kids] at h
  | cons k ks ihks =>
    simp only [wfNodes, Bool.and_eq_true] at hw
    simp only [kids] at h
    cases hc : child c k pv with
    | ok r =>
      simp only [hc, Option.some.injEq] at h
      subst h
      exact ⟨k, List.mem_cons_self .., ih k (List.mem_cons_self ..) hw.1 pv T v hc⟩
    | _ =>
      simp only [hc] at h
      obtain ⟨k', hm, hr⟩ := ihks (fun k hk => ih k (List.mem_cons_of_mem _ hk)) hw.2 h
      exact ⟨k', List.mem_cons_of_mem _ hm, hr⟩

theorem child_sound (c : Cfg) : ∀ (n : Node), wfNode n = true → ∀ (pv : Value) (T : String) (v : Value),
    child c n pv = .ok (T, v) → Reaches c n pv T v := fun n => by
  refine Node.rec (motive_2 := fun ks => ∀ k ∈ ks, wfNode k = true → ∀ pv T v, child c k pv = .ok (T, v) → Reaches c k pv T v)
    (fun b extra ks ih hw pv T v h => ?_) nofun (fun _ _ hk hks => List.forall_mem_cons.mpr ⟨hk, hks⟩) n
  cases b with
  | root nm items => simp [child] at h
  | derived nm parent cs allCs items =>
    simp only [wfNode, Bool.and_eq_true, List.isEmpty_iff] at hw
    obtain ⟨⟨he, hwi⟩, hwk⟩ := hw
    subst he
    simp only [child, List.append_nil] at h
    obtain ⟨v1, h1, h2⟩ := Outcome.bind_ok_iff.mp h
    have hr : refChild c (.derived nm parent cs allCs items) pv = .ok v1 := (step_same c parent cs items hwi pv v1).mp h1
    cases hk : kids c ks v1 with
    | none =>
      obtain ⟨rfl, rfl⟩ : nm = T ∧ v1 = v := by simpa only [hk, Outcome.ok.injEq, Prod.mk.injEq] using h2
      exact Reaches.here _ _ _ _ _ hr
    | some r =>
      simp only [hk, Outcome.ok.injEq] at h2
      subst h2
      exact (kids_sound c ks ih hwk v1 T v hk).elim fun k ⟨hmem, hreach⟩ => Reaches.down _ _ _ _ _ k T v hr hmem hreach

theorem child_not_ok (c : Cfg) (nm : String) (parent : Body) (cs allCs : List (String × Nat)) (items : Items)
    (ks : List Node) (hwi : Py.wfItems items = true) (pv : Value)
    (h : ∀ r, child c (.mk (.derived nm parent cs allCs items) [] ks) pv ≠ .ok r) (v : Value) :
    refChild c (.derived nm parent cs allCs items) pv ≠ .ok v := by
  intro hr
  have h1 := (step_same c parent cs items hwi pv v).mpr hr
  have : ∃ r, child c (.mk (.derived nm parent cs allCs items) [] ks) pv = .ok r := by
    simp only [child, List.append_nil, h1, Outcome.ok_bind]
    cases kids c ks v <;> exact ⟨_, rfl⟩
  obtain ⟨r, hr'⟩ := this
  exact h r hr'

theorem kids_none (c : Cfg) (ks : List Node) (pv : Value) (h : kids c ks pv = none) (k : Node) (hk : k ∈ ks)
    (r : String × Value) : child c k pv ≠ .ok r := by
  induction ks with
  | nil => simp at hk
  | cons k0 ks ih =>
    simp only [kids] at h
    cases hc : child c k0 pv with
    | ok r0 => simp [hc] at h
    | _ =>
      simp only [hc] at h
      rcases List.mem_cons.mp hk with rfl | hm
      · rw [hc]; simp
      · exact ih h hm

end PySpec
end Pdlv
