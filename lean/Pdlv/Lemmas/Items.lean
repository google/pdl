/-
  Pdlv.Lemmas.Items — the walks over a field list against each other and one item at a time (`…_cons`, `…_tail`):
  the payload item and the arrays of a list, the octet counts with and without the payload; and the payload octets
  of a value against their JSON form.  The walks over one group of bit-fields are in Lemmas/Chunk.
-/
import Pdlv.Static
import Pdlv.Lemmas.List
import Pdlv.Lemmas.Layout

namespace Pdlv

theorem hasPayload_eq_modes (is : Items) : is.hasPayload = !(payloadModes is).isEmpty := by
  induction is using Items.induction with
  | nil => rfl
  | cons i r ih => cases i <;> simp [Items.hasPayload, payloadModes, ih]

theorem payloadMode_eq_head (is : Items) : payloadMode is = (payloadModes is).head? := by
  induction is using Items.induction with
  | nil => rfl
  | cons i r ih => cases i <;> simp [payloadMode, payloadModes, ih]

theorem payloadMode_mem (is : Items) (md : PayloadMode) (h : payloadMode is = some md) : md ∈ payloadModes is :=
  List.mem_of_mem_head? (payloadMode_eq_head is ▸ h)

theorem payloadMode_of_modes (is : Items) (hl : (payloadModes is).length ≤ 1) (md : PayloadMode)
    (h : md ∈ payloadModes is) : payloadMode is = some md := by
  rw [payloadMode_eq_head]
  cases hm : payloadModes is with
  | nil => simp [hm] at h
  | cons a l =>
    have hnil : l = [] := List.eq_nil_of_length_eq_zero (by rw [hm, List.length_cons] at hl; omega)
    simpa [hm, hnil, eq_comm] using h

theorem hasPayload_after_payload (m : PayloadMode) (r : Items)
    (h : (payloadModes (.cons (.payload m) r)).length ≤ 1) : r.hasPayload = false := by
  simp only [payloadModes, List.length_cons] at h
  rw [hasPayload_eq_modes, List.isEmpty_iff.mpr (List.eq_nil_of_length_eq_zero (by omega))]; rfl

theorem arrayIds_eq_map (is : Items) : arrayIds is = (arrayItems is).map (·.1) := by
  induction is using Items.induction with
  | nil => rfl
  | cons i r ih => cases i <;> simp [arrayIds, arrayItems, ih]

theorem firstArray_eq_lookup (t : String) (is : Items) : firstArray is t = (arrayItems is).lookup t := by
  induction is using Items.induction with
  | nil => rfl
  | cons i r ih =>
    cases i <;> simp only [firstArray, arrayItems, List.lookup, ih]
    case array id elem ew shape pad => rw [BEq.comm]; cases t == id <;> rfl

theorem firstArray_of_mem (is : Items) (id : String) (elem : Ty) (ew : ElemWidth)
    (h : (id, elem, ew) ∈ arrayItems is) (hn : (arrayIds is).Nodup) : firstArray is id = some (elem, ew) := by
  rw [firstArray_eq_lookup]
  exact List.lookup_of_mem_nodup _ id (elem, ew) (arrayIds_eq_map is ▸ hn) h

/-! ### octet counts: `lenItemsP` counts the payload item as `n` octets -/

theorem lenItemsP_cons (i : Item) (r : Items) (v : Value) (n : Nat) :
    lenItemsP (.cons i r) v n = lenItemsP (.cons i .nil) v n + lenItemsP r v n := by
  cases i <;> simp [lenItemsP]

theorem lenItemsP_payloadLen (v : Value) : ∀ (is : Items),
    lenItemsP is v (((v.get? "payload").bind Value.asList?).getD []).length = lenItems is v := by
  intro is
  induction is using Items.induction with
  | nil => rfl
  | cons i r ih => cases i <;> simp [lenItemsP, lenItems, lenItem, ih]

theorem lenItemsP_noPayload (v : Value) (n : Nat) : ∀ (is : Items), is.hasPayload = false →
    lenItemsP is v n = lenItems is v := by
  intro is
  induction is using Items.induction with
  | nil => exact fun _ => rfl
  | cons i r ih =>
    intro h
    cases i <;> simp only [Items.hasPayload, reduceCtorEq] at h <;> simp only [lenItemsP, lenItems, ih h]

theorem valBytes_length (v : Value) (p : Bytes) (h : valBytes v = some p) :
    p.length = (((some v).bind Value.asList?).getD []).length := by
  cases v with
  | arr vs => exact List.length_of_mapM_eq_some _ vs p h
  | _ => cases h

/-- the payload octets survive the trip through the JSON-shaped value -/
theorem ofBytes_back (bs : Bytes) :
    (bs.map fun b => Value.int b.toNat).map (fun v => UInt8.ofNat ((v.asNat?).getD 0)) = bs := by
  induction bs with
  | nil => rfl
  | cons b r ih =>
    simp only [List.map_cons, Value.asNat?, Option.getD_some, UInt8.ofNat_toNat, List.cons.injEq, true_and]
    exact ih

theorem valBytes_ofBytes (p : Bytes) : valBytes (Value.ofBytes p) = some p := by
  simp only [Value.ofBytes, valBytes]
  induction p with
  | nil => rfl
  | cons b r ih =>
    simp only [List.map_cons, List.mapM_cons, ih]
    have : b.toNat < 256 := b.toNat_lt
    simp [this]

/-- the payload octets the encoder takes from the value are as many as `encoded_len` counts; `v'`: the value
    the lengths are computed from (`v` itself, or `v` with the constrained fields added) -/
theorem lenItemsP_payload {items : Items} {v v' : Value} {p : Bytes}
    (hv : ∀ pv, v.get? "payload" = some pv → v'.get? "payload" = some pv)
    (hp : (if items.hasPayload then (v.get? "payload").bind valBytes else some []) = some p) :
    lenItemsP items v' p.length = lenItems items v' := by
  cases hpay : items.hasPayload with
  | false => exact lenItemsP_noPayload v' p.length items hpay
  | true =>
    simp only [hpay, ↓reduceIte] at hp
    cases hg : v.get? "payload" with
    | none => simp [hg] at hp
    | some pv =>
      rw [hg] at hp
      rw [valBytes_length pv p hp, ← hv pv hg]
      exact lenItemsP_payloadLen v' items

theorem lenItemsNoPayload_eq (v : Value) : ∀ (is : Items), is.hasPayload = false → lenItemsNoPayload is v = lenItems is v := by
  intro is
  induction is using Items.induction with
  | nil => exact fun _ => rfl
  | cons i r ih =>
    intro h
    cases i <;> simp only [Items.hasPayload, reduceCtorEq] at h <;> simp only [lenItemsNoPayload, lenItems, ih h]

theorem lenItemsP_split (v : Value) (n : Nat) : ∀ (is : Items), is.hasPayload = true →
    (payloadModes is).length ≤ 1 → lenItemsP is v n = lenItemsNoPayload is v + n := by
  intro is
  induction is using Items.induction with
  | nil => exact fun h => nomatch h
  | cons i r ih =>
    intro h hl
    cases i with
    | payload m =>
      have hr := hasPayload_after_payload m r hl
      simp only [lenItemsP, lenItemsNoPayload, lenItemsP_noPayload v n r hr, lenItemsNoPayload_eq v r hr]
      exact Nat.add_comm ..
    | _ => simp only [lenItemsP, lenItemsNoPayload, ih h hl, Nat.add_assoc]

theorem le_lenItemsP (v : Value) (n : Nat) : ∀ (is : Items), is.hasPayload = true → n ≤ lenItemsP is v n := by
  intro is
  induction is using Items.induction with
  | nil => exact fun h => nomatch h
  | cons i r ih =>
    intro h
    cases i with
    | payload m => exact Nat.le_add_right ..
    | _ => exact Nat.le_trans (ih h) (Nat.le_add_left ..)

theorem minEnc_le_lenItemsP (v : Value) (n : Nat) : ∀ (is : Items), minEnc is ≤ lenItemsP is v n := by
  intro is
  induction is using Items.induction with
  | nil => simp [minEnc, lenItemsP]
  | cons i r ih =>
    cases i with
    | chunk fs => exact Nat.add_le_add_left ih _
    | array id elem ew shape pad => cases pad <;> simp only [minEnc, lenItemsP, lenItem] <;> omega
    | _ => exact Nat.le_trans ih (Nat.le_add_left ..)

def Item.isPayload : Item → Bool
  | .payload _ => true
  | _ => false

theorem keysBound_cons (i : Item) (r : Items) : keysBound (.cons i r) = keysBound (.cons i .nil) ++ keysBound r := by
  cases i <;> simp [keysBound]

theorem keysBound_tail_nodup (i : Item) (r : Items) (h : (keysBound (.cons i r)).Nodup) : (keysBound r).Nodup := by
  rw [keysBound_cons, List.nodup_append] at h
  exact h.2.1

theorem itemsIds_cons (i : Item) (r : Items) : itemsIds (.cons i r) = itemsIds (.cons i .nil) ++ itemsIds r := by
  cases i <;> simp [itemsIds]

theorem hasPayload_cons (i : Item) (r : Items) : (Items.cons i r).hasPayload = (i.isPayload || r.hasPayload) := by
  cases i <;> simp [Items.hasPayload, Item.isPayload]

theorem optItems_tail (i : Item) (r : Items) (t : String × String × Nat) (h : t ∈ optItems r) :
    t ∈ optItems (.cons i r) := by
  cases i <;> simp [optItems, h]

theorem arrayItems_tail (i : Item) (r : Items) (t : String × Ty × ElemWidth) (h : t ∈ arrayItems r) :
    t ∈ arrayItems (.cons i r) := by
  cases i <;> simp [arrayItems, h]

theorem payloadModes_tail (i : Item) (r : Items) (md : PayloadMode) (h : md ∈ payloadModes r) :
    md ∈ payloadModes (.cons i r) := by
  cases i <;> simp [payloadModes, h]

theorem payloadModes_tail_length (i : Item) (r : Items) :
    (payloadModes r).length ≤ (payloadModes (.cons i r)).length := by
  cases i <;> simp [payloadModes]

/-- nothing follows an item that takes all the rest (a payload before static fields takes all but those) -/
theorem tailOk_last {i : Item} {r : Items} (ht : tailOk i r = true) (hg : greedyItem i = true)
    (hk : ∀ k, i ≠ .payload (.beforeStatic k)) : r = .nil := by
  cases i with
  | payload m =>
    cases m with
    | last => cases r with | nil => rfl | cons _ _ => cases ht
    | beforeStatic k => exact absurd rfl (hk k)
    | sized _ => cases hg
    | undelimited => cases ht
  | array id el ew sh pad =>
    cases sh with
    | unknown =>
      cases pad with
      | none => cases r with | nil => rfl | cons _ _ => cases ht
      | some _ => cases hg
    | _ => cases hg
  | _ => cases hg

end Pdlv
