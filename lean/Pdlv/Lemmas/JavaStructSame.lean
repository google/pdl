/-
  Pdlv.Lemmas.JavaStructSame — struct-typed fields of static size in the model of the emitted Java parser
  (`Pdlv.JavaStruct`: the struct parsed from `buf.slice()`, the buffer advanced by its constant `width()`) against the
  reference, for structs whose own fields are in the class `decWfItems2`: `items_same3`, of which `items_same2` (no
  struct-typed field) is the special case.
-/
import Pdlv.JavaStruct
import Pdlv.Lemmas.JavaArrays
import Pdlv.Lemmas.Local
import Pdlv.Lemmas.Layout
import Pdlv.Lemmas.Eats

namespace Pdlv
namespace Java

/-- one struct-typed field, given that the struct's own fields are parsed as the reference parses them: the reference goes on
    where the struct's parser stopped, the emitted code `width()` octets on, and that is the same place -/
theorem struct_field_sim {en : Endian} {id nm snm : String} {sitems : Items} {k : Nat} (hst : staticItems sitems = some k)
    (hl : localWfItems sitems = true) {bs : Bytes} {sj sr : DState} (hr : RelC sj sr)
    (hs : SameFields RelP (decItemsS en sitems bs DState.empty)
      (Pdlv.decItems { e := en, mode := .ideal } sitems bs DState.empty)) :
    SameFields RelP (decItemS en (.typedef id (.struct nm (.root snm sitems)) (some k)) bs sj)
      (Pdlv.decItem { e := en, mode := .ideal } (.typedef id (.struct nm (.root snm sitems)) (some k)) bs sr) := by
  simp only [decItemS, decTyS, decStructS, Pdlv.decItem, Pdlv.decTy, Pdlv.decBody_root, Outcome.bind_bind]
  refine hs.bind fun ⟨sa, ra⟩ ⟨sb, rb⟩ _ hb hab => ?_
  have hlen := decItems_exact_len { e := en, mode := .ideal } sitems k DState.empty hst hl bs sb rb hb
  have hrb := (decItems_suffix _ sitems bs DState.empty sb rb hb).eq_drop k hlen
  obtain ⟨⟨h1, h2, _⟩, _⟩ := hab
  simp only at h1 h2
  simp only [Outcome.ok_bind, show ¬ bs.length < k by omega, ↓reduceIte, h1, h2, hrb]
  exact SameFields.ok ⟨relC_field sj sr hr id _, rfl⟩

theorem relC_empty : RelC DState.empty DState.empty := ⟨rfl, rfl, fun _ => rfl, fun _ => rfl⟩

def ItemsSame (en : Endian) (is : Items) : Prop :=
  decWfItems3 is = true → ∀ (bs : Bytes), bs.length < 2 ^ 31 → ∀ (sj sr : DState), RelC sj sr →
    SameFields RelP (decItemsS en is bs sj) (Pdlv.decItems { e := en, mode := .ideal } is bs sr)

theorem items_same3 (en : Endian) : ∀ (is : Items), decWfItems3 is = true → ∀ (bs : Bytes), bs.length < 2 ^ 31 →
    ∀ (sj sr : DState), RelC sj sr →
    SameFields RelP (decItemsS en is bs sj) (Pdlv.decItems { e := en, mode := .ideal } is bs sr) := by
  show ∀ is, ItemsSame en is
  refine Layout.induction_struct (Q := ItemsSame en) (fun _ bs _ sj sr hr => SameFields.ok ⟨hr, rfl⟩) ?_
  intro i r hty ihr hw bs hb sj sr hr
  obtain ⟨hi, hwr⟩ := decWfItems3_cons i r hw
  have item : SameFields RelP (decItemS en i bs sj) (Pdlv.decItem { e := en, mode := .ideal } i bs sr) := by
    cases hi with
    | base _ hi => rw [decItemS_eq en i hi]; exact item_same2 en i hi bs hb sj sr hr
    | struct id nm snm sitems k h1 _ h3 h4 =>
      exact struct_field_sim h3 h4 hr
        (hty id nm snm sitems _ rfl (decWfItems3_of_decWfItems2 sitems h1) bs hb _ _ relC_empty)
  simp only [decItemsS, Pdlv.decItems_cons]
  -- the rest on a remainder that is no longer than the input
  refine item.bind fun a b _ hb' h => ?_
  have := decItem_consumes hb'
  exact h.2 ▸ ihr hwr a.2 (by rw [h.2]; omega) a.1 b.1 h.1

theorem decode_same3 (c : Cfg) (nm : String) (items : Items) (hw : decWfItems3 items = true) (bs : Bytes)
    (hb : bs.length < 2 ^ 31) (v : Value) :
    decodeFullS c (.root nm items) bs = .ok v ↔
      Pdlv.decodeFull { e := c.e, mode := .ideal } (.root nm items) bs = .ok v :=
  (finish_sim ((items_same3 c.e items hw bs hb _ _ relC_empty).mono fun _ _ h => ⟨⟨h.1.1, h.1.2.1⟩, h.2⟩)).iff v

theorem items_same2 (en : Endian) : ∀ (is : Items), decWfItems2 is = true → ∀ (bs : Bytes), bs.length < 2 ^ 31 →
    ∀ (sj sr : DState), RelC sj sr →
    SameFields RelP (Java.decItems en is bs sj) (Pdlv.decItems { e := en, mode := .ideal } is bs sr) :=
  fun is hw bs hb sj sr hr => decItemsS_eq en is hw bs sj ▸ items_same3 en is (decWfItems3_of_decWfItems2 is hw) bs hb sj sr hr

theorem struct_field_same (en : Endian) (id nm snm : String) (sitems : Items) (k : Nat)
    (hw : decWfItems2 sitems = true) (hnp : sitems.hasPayload = false) (hst : staticItems sitems = some k)
    (hl : localWfItems sitems = true) (bs : Bytes) (hb : bs.length < 2 ^ 31) (sj sr : DState) (hr : RelC sj sr) :
    SameFields RelP (decItemS en (.typedef id (.struct nm (.root snm sitems)) (some k)) bs sj)
      (Pdlv.decItem { e := en, mode := .ideal } (.typedef id (.struct nm (.root snm sitems)) (some k)) bs sr) :=
  struct_field_sim hst hl hr
    (items_same3 en sitems (decWfItems3_of_decWfItems2 sitems hw) bs hb _ _ relC_empty)

end Java
end Pdlv
