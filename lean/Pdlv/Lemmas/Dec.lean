/-
  Pdlv.Lemmas.Dec — what the decoder definitions of `Pdlv.Wire` do, as lemmas, one decoder step at a time.
  `<step>_ok_iff` (`_ok` where it is an implication) inverts a successful step, `<step>_eq` states a step as an
  equation; `Frame` is what a successful item does to the decoder state.  The loops and the array cases are in
  Lemmas/ArrPlan.
-/
import Pdlv.Lemmas.Chunk
import Pdlv.Lemmas.Bits
import Pdlv.Lemmas.Items
import Pdlv.Lemmas.ArrPlan

namespace Pdlv

/-! ### primitive reads: a success is "enough octets, and the rest is `drop`" -/

/-- the integer `get_uint{_le}` reads from exactly these octets -/
def rdInt (e : Endian) (h : Bytes) : Nat :=
  match e with
  | .little => fromLE h
  | .big => fromBE h

theorem getUint_ok_iff {e : Endian} {w : Nat} {bs : Bytes} {v : Nat} {r : Bytes} :
    getUint e w bs = .ok (v, r) ↔
      w / 8 ≤ bs.length ∧ v = rdInt e (bs.take (w / 8)) ∧ r = bs.drop (w / 8) := by
  unfold getUint
  by_cases h : bs.length < w / 8
  · simp only [h, ↓reduceIte, reduceCtorEq, false_iff]
    exact fun h' => Nat.not_le.mpr h h'.1
  · simp only [h, ↓reduceIte, Outcome.ok.injEq, Prod.mk.injEq]
    exact ⟨fun ⟨h1, h2⟩ => ⟨Nat.not_lt.mp h, h1.symm, h2.symm⟩, fun ⟨_, h1, h2⟩ => ⟨h1.symm, h2.symm⟩⟩

theorem getUint_short {e : Endian} {w : Nat} {bs : Bytes} (h : bs.length < w / 8) : getUint e w bs = .panic .readOOB := by
  simp only [getUint, h, ↓reduceIte]

theorem getUint_of_le {e : Endian} {w : Nat} {bs : Bytes} (h : w / 8 ≤ bs.length) :
    getUint e w bs = .ok (rdInt e (bs.take (w / 8)), bs.drop (w / 8)) :=
  getUint_ok_iff.mpr ⟨h, rfl, rfl⟩

theorem putUint_rdInt (e : Endian) (w : Nat) (h : Bytes) (hl : h.length = w / 8) :
    putUint e w (rdInt e h) = h := by
  cases e with
  | little => simp only [putUint, rdInt]; rw [← hl]; exact toLE_fromLE h
  | big => simp only [putUint, rdInt]; rw [← hl]; exact toBE_fromBE h

theorem rdInt_lt (e : Endian) (h : Bytes) : rdInt e h < 2 ^ (8 * h.length) := by
  cases e with
  | little => exact fromLE_lt h
  | big => exact fromBE_lt h

theorem rdInt_exact (e : Endian) (w : Nat) (h8 : w % 8 = 0) (bs : Bytes) (hle : w / 8 ≤ bs.length) :
    rdInt e (bs.take (w / 8)) < 2 ^ w ∧ putUint e w (rdInt e (bs.take (w / 8))) = bs.take (w / 8) := by
  have hl : (bs.take (w / 8)).length = w / 8 := List.length_take_of_le hle
  have hlt := rdInt_lt e (bs.take (w / 8))
  rw [hl, Nat.mul_div_cancel' (Nat.dvd_of_mod_eq_zero h8)] at hlt
  exact ⟨hlt, putUint_rdInt e w _ hl⟩

theorem decChunk_eq (e : Endian) (ideal : Bool) (fs : List BitField) (bs : Bytes) (st : DState) :
    decChunk e ideal fs bs st =
      if bs.length < chunkBits fs / 8 then .err .length
      else (decChunkFields ideal fs 0 (rdInt e (bs.take (chunkBits fs / 8))) st).bind fun st' =>
        .ok (st', bs.drop (chunkBits fs / 8)) := by
  cases e <;> rfl

theorem decChunk_ok_iff {e : Endian} {ideal : Bool} {fs : List BitField} {bs : Bytes} {st st' : DState} {r : Bytes} :
    decChunk e ideal fs bs st = .ok (st', r) ↔
      chunkBits fs / 8 ≤ bs.length ∧ r = bs.drop (chunkBits fs / 8) ∧
        decChunkFields ideal fs 0 (rdInt e (bs.take (chunkBits fs / 8))) st = .ok st' := by
  simp only [decChunk_eq, Outcome.ite_err_eq_ok, Outcome.bind_ok_iff, Outcome.ok.injEq, Prod.mk.injEq, Nat.not_lt]
  exact ⟨fun ⟨hl, _, h1, e1, e2⟩ => ⟨hl, e2.symm, e1 ▸ h1⟩, fun ⟨hl, e, h1⟩ => ⟨hl, _, h1, rfl, e.symm⟩⟩

theorem decChunk_modeFree {fs : List BitField} (h : fs.all BitField.modeFree = true) (e : Endian) (ideal : Bool)
    (bs : Bytes) (st : DState) : decChunk e ideal fs bs st = decChunk e false fs bs st := by
  simp only [decChunk_eq, decChunkFields_modeFree h ideal]

/-- a step that only maps the value it read and hands the rest on -/
theorem field_ok_iff {α β : Type} {x : Dec (α × Bytes)} (g : α → β) {b : β} {r : Bytes} :
    (x.bind fun p => .ok (g p.1, p.2)) = .ok (b, r) ↔ ∃ a, x = .ok (a, r) ∧ b = g a := by
  simp only [Outcome.bind_ok_iff, Outcome.ok.injEq, Prod.mk.injEq, Prod.exists]
  exact ⟨fun ⟨a, _, h, e1, e2⟩ => ⟨a, e2 ▸ h, e1.symm⟩, fun ⟨a, h, e⟩ => ⟨a, r, h, e.symm, rfl⟩⟩

/-- a step that must take all of its input -/
theorem whole_ok_iff {α β : Type} {x : Dec (α × Bytes)} (g : α → β) {b : β} :
    (x.bind fun p => if p.2.isEmpty then .ok (g p.1) else .err .trailingBytes) = .ok b ↔
      ∃ a, x = .ok (a, []) ∧ b = g a := by
  simp only [Outcome.bind_ok_iff, Prod.exists, Outcome.ite_else_err_eq_ok, List.isEmpty_iff, Outcome.ok.injEq]
  exact ⟨fun ⟨a, _, h, e1, e2⟩ => ⟨a, e1 ▸ h, e2.symm⟩, fun ⟨a, h, e⟩ => ⟨a, [], h, rfl, e.symm⟩⟩

theorem decTy_scalar_ok_iff {c : Cfg} {w : Nat} {bs : Bytes} {x : Value} {r : Bytes} :
    decTy c (.scalar w) bs = .ok (x, r) ↔ ∃ n, getUint c.e w bs = .ok (n, r) ∧ x = .int n := by
  simp only [decTy]
  exact field_ok_iff Value.int

theorem decTy_enumTy_ok_iff {c : Cfg} {nm : String} {en : Enum.Decl} {bs : Bytes} {x : Value} {r : Bytes} :
    decTy c (.enumTy nm en) bs = .ok (x, r) ↔
      ∃ n, getUint c.e en.width bs = .ok (n, r) ∧ enumOk en n = true ∧ x = .int n := by
  simp only [decTy, Outcome.bind_ok_iff, Prod.exists, Outcome.ite_else_err_eq_ok, Outcome.ok.injEq, Prod.mk.injEq]
  exact ⟨fun ⟨n, _, h, hok, e1, e2⟩ => ⟨n, e2 ▸ h, hok, e1.symm⟩, fun ⟨n, h, hok, e⟩ => ⟨n, r, h, hok, e.symm, rfl⟩⟩

/-- the guard of `impl Packet for Custom` is the one `get_uint` needs -/
theorem decTy_custom_ok_iff {c : Cfg} {nm : String} {w : Nat} {bs : Bytes} {x : Value} {r : Bytes} :
    decTy c (.custom nm w) bs = .ok (x, r) ↔ ∃ n, getUint c.e w bs = .ok (n, r) ∧ x = .int n := by
  simp only [decTy, Outcome.ite_err_eq_ok, Outcome.bind_ok_iff, Prod.exists, Outcome.ok.injEq, Prod.mk.injEq]
  constructor
  · rintro ⟨_, n, _, h, e1, e2⟩; exact ⟨n, e2 ▸ h, e1.symm⟩
  · rintro ⟨n, h, e⟩; exact ⟨Nat.not_lt.mpr (getUint_ok_iff.mp h).1, n, r, h, e.symm, rfl⟩

theorem decTy_prim_ok {c : Cfg} {ty : Ty} {bs : Bytes} {v : Value} {r : Bytes} (hty : ty.isStruct = false)
    (h : decTy c ty bs = .ok (v, r)) : minTy ty ≤ bs.length ∧ r = bs.drop (minTy ty) := by
  cases ty with
  | struct nm b => cases hty
  | scalar w =>
    obtain ⟨_, hg, _⟩ := decTy_scalar_ok_iff.mp h
    obtain ⟨hl, _, rfl⟩ := getUint_ok_iff.mp hg
    exact ⟨hl, rfl⟩
  | enumTy nm en =>
    obtain ⟨_, hg, _⟩ := decTy_enumTy_ok_iff.mp h
    obtain ⟨hl, _, rfl⟩ := getUint_ok_iff.mp hg
    exact ⟨hl, rfl⟩
  | custom nm w =>
    obtain ⟨_, hg, _⟩ := decTy_custom_ok_iff.mp h
    obtain ⟨hl, _, rfl⟩ := getUint_ok_iff.mp hg
    exact ⟨hl, rfl⟩

section
variable {c : Cfg} {bs r : Bytes} {st st' : DState}

/-- the unguarded read of a custom typedef field differs from `decTy` only in how it fails -/
theorem decItem_typedef_ok_iff {id : String} {ty : Ty} {sb : Option Nat} :
    decItem c (.typedef id ty sb) bs st = .ok (st', r) ↔
      ∃ v, decTy c ty bs = .ok (v, r) ∧ st' = { st with fields := st.fields ++ [(id, v)] } := by
  cases ty with
  | custom nm w =>
    simp only [decItem, decTy]
    split
    · cases c.mode <;> simp
    · simp only [Outcome.bind_ok_iff, Outcome.ok.injEq, Prod.mk.injEq, Prod.exists]
      constructor
      · rintro ⟨x, r', h, rfl, rfl⟩; exact ⟨.int x, ⟨x, r', h, rfl, rfl⟩, rfl⟩
      · rintro ⟨v, ⟨x, r', h, rfl, rfl⟩, rfl⟩; exact ⟨x, r', h, rfl, rfl⟩
  | scalar w | enumTy nm en | struct nm b => exact field_ok_iff fun v => { st with fields := st.fields ++ [(id, v)] }

theorem decItem_optional_ok {id : String} {ty : Ty} {cid : String} {cval : Nat}
    (h : decItem c (.optional id ty cid cval) bs st = .ok (st', r)) :
    ∃ cv, st.ctx.get (.val cid) = some cv ∧
      ((cv = cval ∧ ∃ x, decTy c ty bs = .ok (x, r) ∧ st' = { st with fields := st.fields ++ [(id, x)] }) ∨
       (cv ≠ cval ∧ r = bs ∧ st' = { st with fields := st.fields ++ [(id, .null)] })) := by
  simp only [decItem] at h
  cases hc : st.ctx.get (.val cid) with
  | none => simp [hc] at h
  | some cv =>
    refine ⟨cv, rfl, ?_⟩
    simp only [hc] at h
    by_cases hcv : cv = cval
    · rw [if_pos hcv, Outcome.ite_err_eq_ok] at h
      exact .inl ⟨hcv, (field_ok_iff fun v => { st with fields := st.fields ++ [(id, v)] }).mp h.2⟩
    · rw [if_neg hcv] at h; cases h; exact .inr ⟨hcv, rfl, rfl⟩

/-- the length guard of optional scalars and enums is the one `get_uint` needs -/
theorem decItem_optional_read {id : String} {ty : Ty} {cid : String} {cval : Nat} {x : Value}
    (hc : st.ctx.get (.val cid) = some cval) (h : decTy c ty bs = .ok (x, r)) :
    decItem c (.optional id ty cid cval) bs st = .ok ({ st with fields := st.fields ++ [(id, x)] }, r) := by
  simp only [decItem, hc, ↓reduceIte, h, Outcome.ok_bind]
  cases ty with
  | scalar w | enumTy nm en =>
    have := (decTy_prim_ok rfl h).1
    rw [if_neg (by simp only [minTy] at this; simp; omega)]
  | custom nm w | struct nm b => rfl

theorem decItem_optional_skip {id : String} {ty : Ty} {cid : String} {cval cv : Nat}
    (hc : st.ctx.get (.val cid) = some cv) (hne : cv ≠ cval) :
    decItem c (.optional id ty cid cval) bs st = .ok ({ st with fields := st.fields ++ [(id, .null)] }, bs) := by
  simp only [decItem, hc, hne, ↓reduceIte]

theorem decItem_payload_ok {mode : PayloadMode}
    (h : decItem c (.payload mode) bs st = .ok (st', r)) :
    ∃ p, st' = { st with payload := some p } ∧ bs = p ++ r ∧
      (∀ m, mode = .sized m → ∃ sz, st.ctx.get (.size "_payload_") = some sz ∧ sz = p.length + m) := by
  cases mode with
  | sized m =>
    simp only [decItem] at h
    cases hs : st.ctx.get (.size "_payload_") with
    | none => simp [hs] at h
    | some sz =>
      simp only [hs, Outcome.ite_err_eq_ok, Outcome.ok.injEq, Prod.mk.injEq] at h
      obtain ⟨hm, hlen, rfl, rfl⟩ := h
      refine ⟨_, rfl, (List.take_append_drop _ _).symm, fun m' hm' => ?_⟩
      cases hm'
      exact ⟨sz, rfl, by rw [List.length_take]; omega⟩
  | last =>
    simp only [decItem, Outcome.ok.injEq, Prod.mk.injEq] at h
    obtain ⟨rfl, rfl⟩ := h
    exact ⟨bs, rfl, by simp, nofun⟩
  | beforeStatic k =>
    simp only [decItem, Outcome.ite_err_eq_ok, Outcome.ok.injEq, Prod.mk.injEq] at h
    obtain ⟨_, rfl, rfl⟩ := h
    exact ⟨_, rfl, (List.take_append_drop _ _).symm, nofun⟩
  | undelimited => simp [decItem] at h

/-- a payload that keeps back no octets takes the whole span, like the payload in last place -/
theorem decItem_payload_beforeStatic (k : Nat) :
    decItem c (.payload (.beforeStatic k)) bs st =
      if k = 0 then .ok ({ st with payload := some bs }, [])
      else if bs.length < k then .err .length
      else .ok ({ st with payload := some (bs.take (bs.length - k)) }, bs.drop (bs.length - k)) := by
  by_cases hk : k = 0
  · subst hk
    simp only [decItem, ↓reduceIte, Nat.not_lt_zero, Nat.sub_zero, List.take_length, List.drop_length]
  · rw [if_neg hk]; rfl

theorem decItem_array_ok_iff {id : String} {elem : Ty} {ew : ElemWidth} {shape : Shape} {pad : Option Nat} :
    decItem c (.array id elem ew shape pad) bs st = .ok (st', r) ↔
      arrayKeysOk ew shape (st.ctx.get (.count id)) (st.ctx.get (.size id)) (st.ctx.get (.esize id)) = true ∧
      ∃ vs, withPad pad bs (decArray c.mode (decTy c elem) ew shape (st.ctx.get (.count id)) (st.ctx.get (.size id))
          (st.ctx.get (.esize id))) = .ok (vs, r) ∧ st' = { st with fields := st.fields ++ [(id, .arr vs)] } := by
  simp only [decItem]
  cases arrayKeysOk ew shape (st.ctx.get (.count id)) (st.ctx.get (.size id)) (st.ctx.get (.esize id))
  · simp
  · simpa using field_ok_iff fun vs => { st with fields := st.fields ++ [(id, Value.arr vs)] }

theorem decItem_typedef_eq {id : String} {ty : Ty} {sb : Option Nat} (hty : ∀ nm w, ty ≠ .custom nm w) :
    decItem c (.typedef id ty sb) bs st =
      (decTy c ty bs).bind fun (v, r) => .ok ({ st with fields := st.fields ++ [(id, v)] }, r) := by
  cases ty with
  | custom nm w => exact absurd rfl (hty nm w)
  | scalar w | enumTy nm en | struct nm b => rfl

/-- an array that is not followed by padding: the test for the context entries changes nothing, `decArray` stops at
    the missing one by itself (in a padded span the length check comes between the two) -/
theorem decItem_array_eq {id : String} {elem : Ty} {ew : ElemWidth} {shape : Shape} :
    decItem c (.array id elem ew shape none) bs st =
      (decArray c.mode (decTy c elem) ew shape (st.ctx.get (.count id)) (st.ctx.get (.size id)) (st.ctx.get (.esize id)) bs).bind
        fun (vs, r) => .ok ({ st with fields := st.fields ++ [(id, .arr vs)] }, r) := by
  cases hk : arrayKeysOk ew shape (st.ctx.get (.count id)) (st.ctx.get (.size id)) (st.ctx.get (.esize id)) with
  | true => simp only [decItem, hk, withPad]; rfl
  | false => simp only [decItem, hk, decArray_of_not_keys hk]; rfl

theorem decItems_cons (c : Cfg) (i : Item) (is : Items) (bs : Bytes) (st : DState) :
    decItems c (.cons i is) bs st = (decItem c i bs st).bind fun p => decItems c is p.2 p.1 := rfl

theorem decItems_cons_ok_iff {i : Item} {is : Items} :
    decItems c (.cons i is) bs st = .ok (st', r) ↔
      ∃ st1 b1, decItem c i bs st = .ok (st1, b1) ∧ decItems c is b1 st1 = .ok (st', r) := by
  simp only [decItems_cons, Outcome.bind_ok_iff, Prod.exists]

end

/-! ### items only append fields, bind the keys of their chunks, and set the payload at a payload item -/

/-- `st'` is `st` after items that bound exactly the keys `keys` (in this order) and appended fields named `ids` -/
structure Frame (st st' : DState) (keys : List Key) (ids : List String) : Prop where
  ctx : ∃ ks, st'.ctx = ks ++ st.ctx ∧ ks.map Prod.fst = keys.reverse
  fields : ∃ vs, st'.fields = st.fields ++ vs ∧ vs.map Prod.fst = ids

theorem Frame.of_eq {st st' : DState} (hc : st'.ctx = st.ctx) (hf : st'.fields = st.fields) : Frame st st' [] [] :=
  ⟨⟨[], hc, rfl⟩, ⟨[], by simp [hf], rfl⟩⟩

theorem Frame.refl (st : DState) : Frame st st [] [] := .of_eq rfl rfl

theorem Frame.append (st : DState) (id : String) (x : Value) :
    Frame st { st with fields := st.fields ++ [(id, x)] } [] [id] := ⟨⟨[], rfl, rfl⟩, ⟨[(id, x)], rfl, rfl⟩⟩

theorem Frame.trans {st st1 st2 : DState} {k1 k2 : List Key} {i1 i2 : List String}
    (h1 : Frame st st1 k1 i1) (h2 : Frame st1 st2 k2 i2) : Frame st st2 (k1 ++ k2) (i1 ++ i2) := by
  obtain ⟨⟨a1, ha1, hb1⟩, ⟨c1, hc1, hd1⟩⟩ := h1
  obtain ⟨⟨a2, ha2, hb2⟩, ⟨c2, hc2, hd2⟩⟩ := h2
  exact ⟨⟨a2 ++ a1, by rw [ha2, ha1, List.append_assoc], by simp [hb1, hb2]⟩,
    ⟨c1 ++ c2, by rw [hc2, hc1, List.append_assoc], by simp [hd1, hd2]⟩⟩

theorem Frame.get {st st' : DState} {keys : List Key} {ids : List String} (h : Frame st st' keys ids) (k : Key)
    (hk : k ∉ keys) : st'.ctx.get k = st.ctx.get k := by
  obtain ⟨ks, h1, h2⟩ := h.ctx
  have : ks.lookup k = none := List.lookup_eq_none_of_not_mem_keys (by rwa [h2, List.mem_reverse])
  rw [h1, Ctx.get_append, this]; rfl

theorem Frame.ids {st st' : DState} {keys : List Key} {ids : List String} (h : Frame st st' keys ids) :
    st'.fields.map Prod.fst = st.fields.map Prod.fst ++ ids := by
  obtain ⟨vs, h1, h2⟩ := h.fields
  simp [h1, h2]

theorem decChunkFields_frame {ideal : Bool} {fs : List BitField} {shift chunk : Nat} {st st' : DState}
    (h : decChunkFields ideal fs shift chunk st = .ok st') :
    Frame st st' (chunkKeys fs) (chunkIds fs) ∧ st'.payload = st.payload := by
  obtain ⟨_, rfl⟩ := (decChunkFields_ok_iff ..).mp h
  exact ⟨⟨⟨_, rfl, chunkBinds_keys ..⟩, ⟨_, rfl, chunkYields_ids ..⟩⟩, rfl⟩

theorem decItem_frame {c : Cfg} {i : Item} {bs : Bytes} {st st' : DState} {r : Bytes}
    (h : decItem c i bs st = .ok (st', r)) :
    Frame st st' (keysBound (.cons i .nil)) (itemsIds (.cons i .nil)) ∧
    (i.isPayload = false → st'.payload = st.payload) ∧ (i.isPayload = true → ∃ p, st'.payload = some p) := by
  cases i with
  | chunk fs =>
    obtain ⟨hf, hp⟩ := decChunkFields_frame (decChunk_ok_iff.mp h).2.2
    exact ⟨by simpa [keysBound, itemsIds] using hf, fun _ => hp, nofun⟩
  | typedef id ty sb =>
    obtain ⟨x, _, rfl⟩ := decItem_typedef_ok_iff.mp h
    exact ⟨Frame.append st id x, fun _ => rfl, nofun⟩
  | optional id ty cid cval =>
    obtain ⟨_, _, ⟨_, x, _, rfl⟩ | ⟨_, _, rfl⟩⟩ := decItem_optional_ok h <;>
      exact ⟨Frame.append st id _, fun _ => rfl, nofun⟩
  | payload mode =>
    obtain ⟨p, rfl, _⟩ := decItem_payload_ok h
    exact ⟨.of_eq rfl rfl, nofun, fun _ => ⟨_, rfl⟩⟩
  | array id elem ew shape pad =>
    obtain ⟨_, vs, _, rfl⟩ := decItem_array_ok_iff.mp h
    exact ⟨Frame.append st id _, fun _ => rfl, nofun⟩

theorem decItems_frame {c : Cfg} {is : Items} {bs : Bytes} {st st' : DState} {r : Bytes}
    (h : decItems c is bs st = .ok (st', r)) :
    Frame st st' (keysBound is) (itemsIds is) ∧
    (is.hasPayload = false → st'.payload = st.payload) ∧ (is.hasPayload = true → ∃ p, st'.payload = some p) := by
  induction is using Items.induction generalizing bs st with
  | nil =>
    cases h
    exact ⟨Frame.refl _, fun _ => rfl, nofun⟩
  | cons i is ih =>
    obtain ⟨st1, b1, h1, h2⟩ := decItems_cons_ok_iff.mp h
    obtain ⟨f1, p1, q1⟩ := decItem_frame h1
    obtain ⟨f2, p2, q2⟩ := ih h2
    rw [keysBound_cons, itemsIds_cons, hasPayload_cons]
    refine ⟨f1.trans f2, fun hh => ?_, fun hh => ?_⟩
    · simp only [Bool.or_eq_false_iff] at hh
      rw [p2 hh.2, p1 hh.1]
    · cases hr : is.hasPayload with
      | true => exact q2 hr
      | false =>
        obtain ⟨p, hp⟩ := q1 (by simpa [hr] using hh)
        exact ⟨p, by rw [p2 hr, hp]⟩

/-- the value a packet or struct without parent is decoded to: the fields in order, then the payload octets if an item recorded any -/
def DState.value (st : DState) : Value :=
  .obj (st.fields ++ (match st.payload with
    | some p => [("payload", Value.ofBytes p)]
    | none => []))

theorem decBody_root (c : Cfg) (nm : String) (is : Items) (bs : Bytes) :
    decBody c (.root nm is) bs = (decItems c is bs DState.empty).bind fun p => .ok (p.1.value, p.2) := rfl

theorem decBody_root_ok_iff {c : Cfg} {nm : String} {is : Items} {bs r : Bytes} {v : Value} :
    decBody c (.root nm is) bs = .ok (v, r) ↔ ∃ st, decItems c is bs DState.empty = .ok (st, r) ∧ v = st.value := by
  rw [decBody_root]
  exact field_ok_iff DState.value

/-- the payload member of a decoded value is the payload an item recorded -/
theorem DState.value_get_payload {st : DState} (h : st.fields.lookup "payload" = none) :
    st.value.get? "payload" = st.payload.map Value.ofBytes := by
  simp only [DState.value, Value.get?, Value.fields, List.lookup_append, h, Option.none_or]
  cases st.payload <;> rfl

/-- the octets `Child::decode_partial(&parent)` parses the child from: the parent value's payload -/
def Value.payloadOctets (pv : Value) : Bytes :=
  match pv.fields.lookup "payload" with
  | some (.arr vs) => vs.map fun v => UInt8.ofNat ((v.asNat?).getD 0)
  | _ => []

/-- the members a child copies from its parent's value: all but the payload and those its constraints fix -/
def Value.copied (pv : Value) (cs : List (String × Nat)) : List (String × Value) :=
  pv.fields.filter fun (k, _) => k != "payload" && !(cs.any (·.1 == k))

/-- the value a child is decoded to: its own fields, the copied ones, then its payload -/
def DState.valueWith (st : DState) (copied : List (String × Value)) : Value :=
  .obj (st.fields ++ copied ++ (match st.payload with
    | some p => [("payload", Value.ofBytes p)]
    | none => []))

/-- **`decode_partial` in normal form**: the constraints, then the own fields from the whole of the parent's payload -/
theorem decPartialWith_eq (decOwn : Bytes → Dec (DState × Bytes)) (parent : Body) (cs : List (String × Nat)) (pv : Value) :
    decPartialWith decOwn parent cs pv =
      if violated parent pv cs then .err .constraintValue
      else if parent.hasPayload then
        (decOwn pv.payloadOctets).bind fun (st, rest) =>
          if rest.isEmpty then .ok (st.valueWith (pv.copied cs)) else .err .trailingBytes
      else .ok (.obj (pv.copied cs)) := rfl

theorem decPartialWith_ok_iff {decOwn : Bytes → Dec (DState × Bytes)} {parent : Body} {cs : List (String × Nat)} {pv v : Value}
    (hp : parent.hasPayload = true) :
    decPartialWith decOwn parent cs pv = .ok v ↔
      violated parent pv cs = false ∧ ∃ st, decOwn pv.payloadOctets = .ok (st, []) ∧ v = st.valueWith (pv.copied cs) := by
  rw [decPartialWith_eq]
  cases violated parent pv cs with
  | true => simp
  | false =>
    simp only [Bool.false_eq_true, ↓reduceIte, hp, true_and]
    exact whole_ok_iff (DState.valueWith · (pv.copied cs))

theorem decBody_derived (c : Cfg) (nm : String) (parent : Body) (cs allCs : List (String × Nat)) (items : Items) (bs : Bytes) :
    decBody c (.derived nm parent cs allCs items) bs =
      (decBody c parent bs).bind fun p => (decPartial c parent cs items p.1).bind fun v => .ok (v, p.2) := rfl

theorem decBody_derived_ok_iff {c : Cfg} {nm : String} {parent : Body} {cs allCs : List (String × Nat)} {items : Items}
    {bs r : Bytes} {v : Value} :
    decBody c (.derived nm parent cs allCs items) bs = .ok (v, r) ↔
      ∃ pv, decBody c parent bs = .ok (pv, r) ∧ decPartial c parent cs items pv = .ok v := by
  simp only [decBody_derived, Outcome.bind_ok_iff, Prod.exists, Outcome.ok.injEq, Prod.mk.injEq]
  exact ⟨fun ⟨pv, _, h, v', h', e1, e2⟩ => ⟨pv, e2 ▸ h, e1 ▸ h'⟩, fun ⟨pv, h, h'⟩ => ⟨pv, r, h, v, h', rfl, rfl⟩⟩

theorem decodeFull_ok_iff {c : Cfg} {b : Body} {bs : Bytes} {v : Value} :
    decodeFull c b bs = .ok v ↔ decBody c b bs = .ok (v, []) :=
  (whole_ok_iff id).trans ⟨fun ⟨_, h, e⟩ => e ▸ h, fun h => ⟨v, h, rfl⟩⟩

end Pdlv
