/-
  Pdlv.Lemmas.CxxAgree — the model of the struct parser the C++ back end emits (`Pdlv.Cxx.decBody`)
  refines the reference decoder (`Pdlv.decBody`, reference mode) on the layouts `Cxx.wfBody`: it accepts
  the same inputs with the same values, and it reaches a failed slice assertion only where the reference
  decoder itself would stop outside its domain (which, by C01, is never on well-formed layouts).

  On that class the emitted array code is the reference's, for any element parser (`arrayFull_eq`: the C++
  product `element_size * count` is exact for count fields of at most 16 bits, and a span below 2^64 octets
  that holds it makes the reference's overflow check moot), and so is the element parser of scalars and
  enums (`rawRead_eq`); the rest is the congruence of Lemmas/Refines.
-/
import Pdlv.Cxx
import Pdlv.Lemmas.Refines
import Pdlv.Lemmas.Layout
import Pdlv.Lemmas.Local
import Pdlv.Lemmas.Eats
import Pdlv.Lemmas.CxxVals

namespace Pdlv
namespace Cxx

open Py (ideal bfPlain_eq)

theorem arrayFull_eq (f : Bytes → Dec (Value × Bytes)) (ew : ElemWidth) (shape : Shape) (cw cnt siz esz : Option Nat)
    (sp : Bytes) (hsp : sp.length < usizeMax) (hew : ew ≠ .dynamic)
    (hcw : ∀ w, ew = .static w → shape = .countField → ∃ c, cw = some c ∧ c ≤ 16 ∧ w * 65535 < 2 ^ 31) :
    arrayFull f ew shape cw cnt siz sp = decArray .ideal f ew shape cnt siz esz sp := by
  cases ew with
  | dynamic => exact absurd rfl hew
  | unknown => cases shape <;> simp only [arrayFull, decArray, decRepeat_unwrap] <;> rfl
  | static w =>
    cases shape with
    | countField =>
      obtain ⟨c, rfl, hc16, hw⟩ := hcw w rfl rfl
      cases cnt with
      | none => rfl
      | some n =>
        simp only [arrayFull, decArray, mulCount, hc16, hw, ↓reduceIte, umulM, Outcome.ok_bind, Nat.mul_comm w n]
        -- a product beyond `usize` is beyond the span as well
        by_cases hnw : n * w < usizeMax
        · simp only [hnw, ↓reduceIte, Outcome.ok_bind]
        · simp only [hnw, ↓reduceIte, Outcome.err_bind, if_pos (show sp.length < n * w by omega)]
    | _ => simp only [arrayFull, decArray, decRepeat_unwrap] <;> rfl

theorem runTotal_le_min (is : Items) : runTotal is ≤ minItems is := by
  induction is using Items.induction with
  | nil => exact Nat.zero_le _
  | cons i r ih => cases i with | chunk fs => exact Nat.add_le_add_left ih _ | _ => exact Nat.zero_le _

theorem run_needs (c : Cfg) : ∀ (is : Items) (bs rest : Bytes) (st st' : DState),
    Pdlv.decItems (ideal c) is bs st = .ok (st', rest) → runTotal is ≤ bs.length := fun is bs rest st st' h => by
  have := decItems_consumes (ideal c) is bs st st' rest h
  have := runTotal_le_min is
  omega

theorem decRepeat_guard (w : Nat) (f g : Bytes → Dec (Value × Bytes))
    (h : ∀ bs, w ≤ bs.length → bs.length < usizeMax → Refines (f bs) (g bs)) (hg : Exact g w) :
    ∀ (n : Nat) (bs : Bytes), n * w ≤ bs.length → bs.length < usizeMax → Refines (decRepeat f n bs) (decRepeat g n bs) := fun n => by
  induction n with
  | zero => exact fun _ _ _ => Refines.rfl
  | succ n ih =>
    intro bs hn hb
    have e1 : (n + 1) * w = n * w + w := Nat.succ_mul n w
    refine Refines.bind (h bs (by omega) hb) (fun x hx => ?_)
    have := hg bs x.1 x.2 hx
    exact Refines.bind (ih x.2 (by omega) (by omega)) (fun _ _ => Refines.rfl)

/-- no array size modifier anywhere in the field list -/
def ModFree (all : Items) : Prop := ∀ id w m, sizeField id all = some (w, m) → id = "_payload_" ∨ m = 0

theorem sizeFieldIn_plain (id : String) (fs : List BitField) (hp : fs.all Py.bfPlain = true) (w m : Nat)
    (h : sizeFieldIn id fs = some (w, m)) : id = "_payload_" ∨ m = 0 := by
  induction fs with
  | nil => simp [sizeFieldIn] at h
  | cons f fs ih =>
    simp only [List.all_cons, Bool.and_eq_true] at hp
    cases f with
    | size t w' m' =>
      simp only [sizeFieldIn] at h
      split at h
      · rename_i ht
        simp only [Option.some.injEq, Prod.mk.injEq] at h
        simp only [Py.bfPlain, Bool.or_eq_true, beq_iff_eq] at hp
        have ht' : t = id := by simpa using ht
        rcases hp.1 with h1 | h1
        · exact Or.inl (by rw [← ht', h1])
        · exact Or.inr (by rw [← h.2, h1])
      · exact ih hp.2 h
    | _ => exact ih hp.2 (by simpa [sizeFieldIn] using h)

theorem sizeField_wf (all : Items) (id : String) (is : Items) (hw : wfItems all is = true) (w m : Nat)
    (h : sizeField id is = some (w, m)) : id = "_payload_" ∨ m = 0 := by
  induction is using Items.induction with
  | nil => simp [sizeField] at h
  | cons i r ih =>
    simp only [wfItems, Bool.and_eq_true] at hw
    cases i with
    | chunk fs =>
      simp only [sizeField] at h
      cases hin : sizeFieldIn id fs with
      | some x =>
        rw [hin] at h
        simp only [Option.some_or, Option.some.injEq] at h
        subst h
        exact sizeFieldIn_plain id fs (by simpa [wfItem] using hw.1) w m hin
      | none =>
        rw [hin] at h
        simp only [Option.none_or] at h
        exact ih hw.2 h
    | _ => exact ih hw.2 (by simpa [sizeField] using h)

theorem subModifier_id (all : Items) (hall : ModFree all) (id : String) (hid : id ≠ "_payload_") (s : Option Nat) :
    subModifier all id s = s := by
  unfold subModifier
  cases s with
  | none => rfl
  | some sz =>
    cases hf : sizeField id all with
    | none => rfl
    | some x =>
      obtain ⟨w, m⟩ := x
      rcases hall id w m hf with h | h
      · exact absurd h hid
      · subst h; simp

theorem decElem_scalar (c : Cfg) (w' : Nat) : decElem c (.scalar w') = scalarEl c.e w' := by
  funext b; simp [decElem, rawRead_eq, scalarEl]

theorem afterPad_drop {p k : Nat} (bs : Bytes) (hkp : k ≤ p) (hk : k ≤ bs.length) :
    afterPad (some p) bs.length (bs.drop k) = if bs.length < p then .err .length else .ok (bs.drop p) := by
  simp only [afterPad, List.length_drop, Nat.sub_sub_self hk]
  by_cases h1 : k < p
  · simp only [h1, ↓reduceIte, List.drop_drop, Nat.add_sub_of_le hkp, Nat.sub_lt_sub_iff_right hk]
  · obtain rfl : k = p := Nat.le_antisymm hkp (Nat.not_lt.mp h1)
    rw [if_neg h1, if_neg (Nat.not_lt.mpr hk)]

theorem guarded_scalars (e : Endian) (w' n : Nat) (sp : Bytes) :
    (if sp.length < n * (w' / 8) then .err .length else decRepeat (scalarEl e w') n sp) =
      if sp.length < n * (w' / 8) then .err .length else .ok (vals e w' n sp, sp.drop (n * (w' / 8))) := by
  split
  · rfl
  · exact decRepeat_vals e w' n sp (by omega)

/-- a statically counted array of scalars in a padded slot it fits: the emitted code checks `n * w` octets, reads,
    and skips what is left of the padding; the reference parses from the first `p` octets -/
theorem padded_scalar_ref (c : Cfg) (all rest : Items) (id : String) (w' n p : Nat) (hnp : n * (w' / 8) ≤ p)
    (bs : Bytes) (st : DState) :
    Refines (Cxx.decItem c all rest (.array id (.scalar w') (.static (w' / 8)) (.static n) (some p)) bs st)
      (Pdlv.decItem (ideal c) (.array id (.scalar w') (.static (w' / 8)) (.static n) (some p)) bs st) := by
  have hk : arrayKeysOk (.static (w' / 8)) (.static n) (st.ctx.get (.count id)) (st.ctx.get (.size id)) (st.ctx.get (.esize id)) = true := rfl
  simp only [Cxx.decItem, Pdlv.decItem, withPad, ideal, hk, Bool.not_true, Bool.false_eq_true, ↓reduceIte, decTy_scalar,
    decElem_scalar, arrayFull, decArray_static_static, guarded_scalars]
  by_cases hl : bs.length < n * (w' / 8)
  · simp only [hl, if_pos (Nat.lt_of_lt_of_le hl hnp), ↓reduceIte, Outcome.err_bind]
    exact Refines.err_err _ _
  · simp only [hl, ↓reduceIte, Outcome.ok_bind, afterPad_drop bs hnp (Nat.not_lt.mp hl)]
    by_cases hlp : bs.length < p
    · simp only [hlp, ↓reduceIte, Outcome.err_bind]
      exact Refines.err_err _ _
    · have : ¬ (bs.take p).length < n * (w' / 8) := by rw [List.length_take]; omega
      simp only [hlp, this, ↓reduceIte, Outcome.ok_bind, vals_take c.e w' n bs p hnp]
      exact Refines.rfl

theorem countOk_spec {all : Items} {id : String} {w : Nat} (h : countOk all id w = true) :
    ∃ cc, countWidth id all = some cc ∧ cc ≤ 16 ∧ w * 65535 < 2 ^ 31 := by
  simp only [countOk] at h
  cases hcc : countWidth id all with
  | none => simp [hcc] at h
  | some cc =>
    simp only [hcc, Bool.and_eq_true, decide_eq_true_eq] at h
    exact ⟨cc, rfl, h.1, h.2⟩

theorem ref_all (c : Cfg) :
    (∀ ty, wfTy ty = true → ∀ bs, bs.length < usizeMax → Refines (decElem c ty bs) (Pdlv.decTy (ideal c) ty bs)) ∧
    (∀ i all rest, ModFree all → wfItem all rest i = true → ∀ (bs : Bytes) (st : DState), bs.length < usizeMax →
      Refines (Cxx.decItem c all rest i bs st) (Pdlv.decItem (ideal c) i bs st)) ∧
    (∀ is all, ModFree all → wfItems all is = true → ∀ (inRun : Bool) (bs : Bytes) (st : DState), bs.length < usizeMax →
      Refines (Cxx.decItems c all is inRun bs st) (Pdlv.decItems (ideal c) is bs st)) ∧
    (∀ b, wfBody b = true → ∀ bs, bs.length < usizeMax → Refines (Cxx.decBody c b bs) (Pdlv.decBody (ideal c) b bs)) := by
  apply Layout.induction
  case scalar => intro w _ bs _; exact Refines.of_eq (by simp [decElem, rawRead_eq, Pdlv.decTy, ideal])
  case enumTy => intro nm en _ bs _; exact Refines.of_eq (by simp [decElem, rawRead_eq, Pdlv.decTy, ideal])
  case custom => intro nm w hw; simp [wfTy] at hw
  case struct =>
    intro nm b ih hw bs hb
    cases b with
    | root nm items => exact ih hw bs hb
    | derived => simp [wfTy] at hw
  case chunk =>
    intro fs all rest _ hw bs st _
    simp only [wfItem] at hw
    simp only [Cxx.decItem, Pdlv.decItem, ideal, BEq.rfl]
    exact Refines.of_eq (decChunk_modeFree (bfPlain_eq ▸ hw) c.e true bs st).symm
  case typedef =>
    intro id ty sb ih all rest _ hw bs st hb
    simp only [wfItem, Bool.and_eq_true, Bool.not_eq_true'] at hw
    obtain ⟨⟨hst, hwt⟩, hunk⟩ := hw
    cases ty with
    | struct nm b =>
      simp only [Cxx.decItem, hunk, Bool.false_eq_true, ↓reduceIte, Pdlv.decItem, Pdlv.decTy]
      exact Refines.bind (ih hwt bs hb) (fun _ _ => Refines.rfl)
    | _ => simp [isStruct] at hst
  case optional =>
    intro id ty cid cval ih all rest _ hw bs st hb
    simp only [wfItem] at hw
    unfold Cxx.decItem
    cases hctx : st.ctx.get (.val cid) with
    | none =>
      simp only [condValue, hctx, Outcome.panic_bind, Pdlv.decItem]
      exact Refines.rfl
    | some cv =>
      simp only [condValue, hctx, Outcome.ok_bind, Pdlv.decItem]
      refine Refines.ite (fun _ => ?_) fun _ => Refines.rfl
      have hel := ih hw bs hb
      cases ty with
      | scalar w =>
        simp only [decide_eq_true_eq]
        exact Refines.ite (fun _ => Refines.rfl) fun _ => Refines.of_eq (by simp [Pdlv.decTy, ideal, Outcome.bind_bind])
      | enumTy nm en =>
        simp only [decide_eq_true_eq]
        refine Refines.ite (fun _ => Refines.rfl) fun _ => Refines.of_eq ?_
        simp only [Pdlv.decTy, ideal, Outcome.bind_bind]
        congr 1; funext x; split <;> rfl
      | custom nm w => simp [wfTy] at hw
      | struct nm b => exact Refines.bind hel (fun _ _ => Refines.rfl)
  case payload =>
    intro mode all rest _ hw bs st _
    cases mode with
    | sized m =>
      simp only [Cxx.decItem, Pdlv.decItem]
      exact Refines.rfl
    | last =>
      simp only [wfItem, beq_iff_eq] at hw
      exact Refines.of_eq (by simp only [Cxx.decItem, hw, ↓reduceIte, Pdlv.decItem])
    | beforeStatic k =>
      simp only [wfItem, beq_iff_eq] at hw
      exact Refines.of_eq (by simp only [Cxx.decItem, hw, decItem_payload_beforeStatic])
    | undelimited => simp [wfItem] at hw
  case array =>
    intro id elem ew shape pad ih all rest hall hw bs st hb
    simp only [wfItem, Bool.and_eq_true, bne_iff_ne, ne_eq] at hw
    obtain ⟨⟨⟨hpad, hidp⟩, hwt⟩, hshape⟩ := hw
    cases pad with
    | some p =>
      cases elem with
      | scalar w' =>
        cases ew with
        | static w =>
          cases shape with
          | static n =>
            simp only [padOk, Bool.and_eq_true, beq_iff_eq, decide_eq_true_eq] at hpad
            obtain ⟨hw8, hnp⟩ := hpad
            subst hw8
            exact padded_scalar_ref c all rest id w' n p hnp bs st
          | _ => simp [padOk] at hpad
        | _ => simp [padOk] at hpad
      | _ => simp [padOk] at hpad
    | none =>
      have hnd : ew ≠ .dynamic := by intro h; subst h; simp at hshape
      have hcw : ∀ w, ew = .static w → shape = .countField →
          ∃ cc, countWidth id all = some cc ∧ cc ≤ 16 ∧ w * 65535 < 2 ^ 31 := by
        intro w h1 h2
        subst h1; subst h2
        simp only [Bool.and_eq_true] at hshape
        exact countOk_spec hshape.2
      rw [Pdlv.decItem_array_eq]
      simp only [Cxx.decItem, afterPad, subModifier_id all hall id hidp, Outcome.ok_bind,
        arrayFull_eq _ ew shape _ _ _ (st.ctx.get (.esize id)) bs hb hnd hcw]
      exact Refines.bind (decArray_ref (decTy_length_le _ elem) fun b hbl => ih hwt b (by omega))
        fun _ _ => Refines.rfl
  case nil => intro all _ _ _ bs st _; exact Refines.rfl
  case cons =>
    intro i r ihi ihr all hall hw inRun bs st hb
    simp only [wfItems, Bool.and_eq_true] at hw
    have step : ∀ (b : Bool), Refines ((Cxx.decItem c all r i bs st).bind fun x => Cxx.decItems c all r b x.2 x.1)
        (Pdlv.decItems (ideal c) (.cons i r) bs st) := fun b =>
      Refines.bind (ihi all r hall hw.1 bs st hb) fun x hx =>
        ihr all hall hw.2 b x.2 x.1 (by have := decItem_consumes hx; omega)
    simp only [Cxx.decItems]
    cases hr : runLen i with
    | none => exact step false
    | some n =>
      exact Refines.run_guard _ _ (fun a ha => run_needs c (.cons i r) bs a.2 st a.1 ha) (step true)
  case root =>
    intro nm items ih hw bs hb
    exact Refines.bind (ih items (sizeField_wf items · items hw) hw false bs DState.empty hb) (fun _ _ => Refines.rfl)
  case derived => intro nm parent cs allCs items _ _ hw; simp [wfBody] at hw

theorem item_ref (c : Cfg) (all rest : Items) (hall : ModFree all) : ∀ (i : Item), wfItem all rest i = true → ∀ (bs : Bytes) (st : DState),
    bs.length < usizeMax → Refines (Cxx.decItem c all rest i bs st) (Pdlv.decItem (ideal c) i bs st) :=
  fun i => (ref_all c).2.1 i all rest hall

theorem items_ref (c : Cfg) (all : Items) (hall : ModFree all) : ∀ (is : Items), wfItems all is = true → ∀ (inRun : Bool) (bs : Bytes) (st : DState),
    bs.length < usizeMax → Refines (Cxx.decItems c all is inRun bs st) (Pdlv.decItems (ideal c) is bs st) :=
  fun is => (ref_all c).2.2.1 is all hall

theorem ty_ref (c : Cfg) : ∀ (ty : Ty), wfTy ty = true → isStruct ty = true → ∀ bs, bs.length < usizeMax →
    Refines (decElem c ty bs) (Pdlv.decTy (ideal c) ty bs) :=
  fun ty hw _ => (ref_all c).1 ty hw

theorem struct_parser_refines_reference (c : Cfg) (nm : String) (items : Items) (hw : wfBody (.root nm items) = true)
    (bs : Bytes) (hb : bs.length < usizeMax) :
    Refines (Cxx.decBody c (.root nm items) bs) (Pdlv.decBody (ideal c) (.root nm items) bs) :=
  (ref_all c).2.2.2 _ hw bs hb

end Cxx
end Pdlv
