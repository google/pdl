/-
  Pdlv.Lemmas.JavaEnumArrays — closed forms of the element loops of the emitted Java parser.
-/
import Pdlv.Lemmas.JavaArrays
import Pdlv.Lemmas.CxxVals

namespace Pdlv
namespace Java

open Cxx (vals)

theorem decScalars_fail (en : Endian) (w : Nat) : ∀ (n : Nat) (bs : Bytes),
    (∃ x, decScalars en w n bs = .ok x) ∨ decScalars en w n bs = .err .length := by
  intro n
  induction n with
  | zero => exact fun _ => .inl ⟨_, rfl⟩
  | succ n ih =>
    intro bs
    simp only [decScalars]
    split
    · exact .inr rfl
    · rcases ih (bs.drop (w / 8)) with ⟨x, h⟩ | h
      · exact .inl ⟨_, by rw [h]; rfl⟩
      · exact .inr (by rw [h]; rfl)

theorem decScalars_eq (en : Endian) (w : Nat) (hw : w = 8 ∨ w = 16 ∨ w = 32 ∨ w = 64) :
    ∀ (n : Nat) (bs : Bytes),
      decScalars en w n bs =
        if bs.length < n * (w / 8) then .err .length else .ok (vals en w n bs, bs.drop (n * (w / 8))) := by
  intro n bs
  -- on success the loop is the reference's (`decScalars_repeat`), which reads `n * (w / 8)` octets and returns `vals`
  have hrep := (decScalars_repeat en w hw n bs).iff
  split
  · rcases decScalars_fail en w n bs with ⟨x, h⟩ | h
    · have := (decRepeat_reads _ _ (decTy_reads _ (.scalar w) _ rfl rfl) n).exact bs x.1 x.2 ((hrep x).mp h)
      omega
    · exact h
  · exact (hrep _).mpr (Cxx.decTy_scalar { e := en } w ▸ Cxx.decRepeat_vals en w n bs (by omega))

/-- the values a closed enum declares, as a predicate on decoded elements -/
def okVal (e : Enum.Decl) : Value → Bool
  | .int x => enumOk e x
  | _ => false

/-- the reference's element parser of an enum array -/
def enumEl (en : Endian) (e : Enum.Decl) : Bytes → Dec (Value × Bytes) :=
  fun bs => (getUint en e.width bs).bind fun (v, r) => if enumOk e v then .ok (.int v, r) else .err .enumValue

theorem decTy_enum (en : Endian) (nm : String) (e : Enum.Decl) :
    Pdlv.decTy { e := en, mode := .ideal } (.enumTy nm e) = enumEl en e := by
  funext bs
  simp [Pdlv.decTy, enumEl]

theorem decRepeat_enum_ok_iff (en : Endian) (e : Enum.Decl) :
    ∀ (n : Nat) (bs : Bytes) (x : List Value × Bytes), n * (e.width / 8) ≤ bs.length →
      (decRepeat (enumEl en e) n bs = .ok x ↔
        ((vals en e.width n bs).all (okVal e) = true ∧ x = (vals en e.width n bs, bs.drop (n * (e.width / 8))))) := by
  intro n
  induction n with
  | zero =>
    intro bs x _
    simp only [decRepeat, vals, List.all_nil, Nat.zero_mul, List.drop_zero, true_and, Outcome.ok.injEq]
    exact eq_comm
  | succ n ih =>
    intro bs x h
    have e1 : (n + 1) * (e.width / 8) = n * (e.width / 8) + e.width / 8 := Nat.succ_mul n _
    rw [e1] at h
    have hwl : e.width / 8 ≤ bs.length := Nat.le_trans (Nat.le_add_left ..) h
    have hstep : enumEl en e bs =
        if enumOk e (rdInt en (bs.take (e.width / 8))) then .ok (.int (rdInt en (bs.take (e.width / 8))), bs.drop (e.width / 8))
        else .err .enumValue := by
      simp only [enumEl, getUint_of_le hwl, Outcome.ok_bind]
    simp only [decRepeat, hstep, vals, List.all_cons, okVal, Bool.and_eq_true]
    by_cases hok : enumOk e (rdInt en (bs.take (e.width / 8))) = true
    · replace ih := fun a => ih (bs.drop (e.width / 8)) a (by rw [List.length_drop]; exact Nat.le_sub_of_add_le h)
      have hd : (bs.drop (e.width / 8)).drop (n * (e.width / 8)) = bs.drop ((n + 1) * (e.width / 8)) := by
        rw [List.drop_drop, e1, Nat.add_comm]
      simp only [hok, ↓reduceIte, true_and, Outcome.ok_bind, Outcome.bind_ok_iff]
      constructor
      · rintro ⟨a, ha, hx⟩
        obtain ⟨h6, rfl⟩ := (ih a).mp ha
        cases hx
        exact ⟨h6, by rw [hd]⟩
      · rintro ⟨h6, rfl⟩
        exact ⟨_, (ih _).mpr ⟨h6, rfl⟩, by rw [hd]⟩
    · simp only [hok, Bool.false_eq_true, ↓reduceIte, reduceCtorEq, false_and, Outcome.err_bind]

theorem decEnums_ok_iff (en : Endian) (e : Enum.Decl) (hw : e.width = 8 ∨ e.width = 16 ∨ e.width = 32 ∨ e.width = 64) :
    ∀ (n : Nat) (bs : Bytes) (x : List Value × Bytes),
      decEnums en e n bs = .ok x ↔
        (n * (e.width / 8) ≤ bs.length ∧ (vals en e.width n bs).all (okVal e) = true ∧
          x = (vals en e.width n bs, bs.drop (n * (e.width / 8)))) := by
  intro n bs x
  -- the emitted reads are the reference's (`decEnums_repeat`), which read `e.width / 8` octets each
  rw [(decEnums_repeat en "" e hw n bs).iff x, decTy_enum]
  constructor
  · intro h
    have hl := (decRepeat_reads _ _ (decTy_enum en "" e ▸ decTy_reads _ (.enumTy "" e) _ rfl rfl) n).exact bs x.1 x.2 h
    exact ⟨by omega, (decRepeat_enum_ok_iff en e n bs x (by omega)).mp h⟩
  · exact fun ⟨h1, h2⟩ => (decRepeat_enum_ok_iff en e n bs x h1).mpr h2

end Java
end Pdlv
