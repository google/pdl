/-
  Pdlv.Lemmas.PySer — the model of the serializer the Python back end emits (`Pdlv.Py.encBody`) writes,
  for every value the reference-mode encoder accepts, exactly the bytes the reference-mode encoder
  writes (hence, by C03, `Ref.encode`): it performs fewer checks, never different arithmetic.
-/
import Pdlv.Py
import Pdlv.Lemmas.OkLe
import Pdlv.Lemmas.ChunkEnc
import Pdlv.Lemmas.Layout

namespace Pdlv
open Outcome

namespace Py

/-- the value one bit-field contributes to its group in the emitted `serialize()`, with the checks made on it -/
def bfEnc (items : Items) (pl : Nat) (v : Value) : BitField → Enc Nat
  | .scalar id w => (natField v id).bind fun x => if x > maskBits w then .err .invalidScalarValue else .ok x
  | .flag _ opts =>
    match opts with
    | [] => .panic .badLayout
    | (o, setv) :: _ => .ok (if isPresent v o then setv else 1 - setv)
  | .enumTy id _ e => (natField v id).bind fun x => if x ≥ 2 ^ e.width then .err .invalidScalarValue else .ok x
  | .fixed _ c => .ok c
  | .reserved _ => .ok 0
  | .size t w m => (sizeOfTarget items t pl v).bind fun s => if s + m > maskBits w then .err .sizeOverflow else .ok (s + m)
  | .count t w => (listField v t).bind fun vs => if vs.length > maskBits w then .err .countOverflow else .ok vs.length
  | .elemSize _ _ => .panic .badLayout

theorem encChunkFields_eq (items : Items) (pl : Nat) (v : Value) (fs : List BitField) (shift acc : Nat) :
    Py.encChunkFields items pl v fs shift acc = (packInt (bfEnc items pl v) fs).bind fun N => .ok (acc + 2 ^ shift * N) := by
  refine packInt_eq _ _ (fun _ _ => rfl) (fun f fs s a => ?_) fs shift acc
  cases f with
  | flag id opts => cases opts <;> rfl
  | _ => simp only [Py.encChunkFields, bfEnc, bind_bind, ite_bind] <;> rfl

def serWfBf : BitField → Bool
  | .elemSize .. => false
  | .scalar _ w => decide (w ≤ 64)
  | .enumTy _ _ e => decide (e.width ≤ 64)
  | .count _ w => decide (w ≤ 64)
  | _ => true

/-- field by field, python.rs makes a check the reference makes, or none -/
theorem bfEnc_ideal_to_py (all : Items) (pl : Nat) (v : Value) (f : BitField) (hw : serWfBf f = true) :
    OkLe (Pdlv.bfEnc true all pl v f) (bfEnc all pl v f) := by
  cases f with
  | scalar id w =>
    intro a ha
    obtain ⟨hg, _, hlt⟩ := bfEnc_scalar_ok_iff.mp ha
    simp only [bfEnc, natField_ok_iff.mpr hg, ok_bind, if_neg ((le_maskBits_iff w a).mpr hlt)]
  | flag id opts =>
    cases opts with
    | nil => exact OkLe.rfl
    | cons o r =>
      intro a ha
      simp only [Pdlv.bfEnc] at ha
      split at ha
      · cases ha
      · exact ha
  | enumTy id ty e =>
    intro a ha
    obtain ⟨hg, hok⟩ := bfEnc_enumTy_ok_iff.mp ha
    simp only [bfEnc, natField_ok_iff.mpr hg, ok_bind, if_neg (Nat.not_le.mpr (enumOk_lt e a hok))]
  | fixed _ _ | reserved _ => exact OkLe.rfl
  | size t w m => exact OkLe.bind OkLe.rfl fun s _ a ha => by simpa only [Bool.true_or, ↓reduceIte] using ha
  | count t w =>
    intro a ha
    obtain ⟨vs, hg, rfl, hlt⟩ := (bfEnc_count_ok_iff (of_decide_eq_true hw)).mp ha
    simp only [bfEnc, listField_ok_iff.mpr hg, ok_bind, if_neg ((le_maskBits_iff w _).mpr hlt)]
  | elemSize t w => simp [serWfBf] at hw

theorem serWfItem_chunk (fs : List BitField) : serWfItem (.chunk fs) = fs.all serWfBf := by
  simp only [serWfItem]; congr 1

/-- the padding: the reference-mode encoder has checked that the elements fit -/
theorem padTo_le_pad (pd : Option Nat) (bs : Bytes) : OkLe (padTo pd bs) (.ok (Py.pad pd bs)) := by
  intro a ha
  obtain ⟨_, rfl⟩ := padTo_ok_iff.mp ha
  cases pd <;> simp [Py.pad, zeros]

theorem le_all (c : Cfg) :
    (∀ ty, serWfTy ty = true → ∀ v, OkLe (Pdlv.encTy { e := c.e, mode := .ideal } ty v) (Py.encTy c ty v)) ∧
    (∀ i, serWfItem i = true → ∀ (all : Items) (p : Bytes) (v : Value),
      OkLe (Pdlv.encItem { e := c.e, mode := .ideal } all (.ok p) p.length v i) (Py.encItem c all p v i)) ∧
    (∀ is, serWfItems is = true → ∀ (all : Items) (p : Bytes) (v : Value),
      OkLe (Pdlv.encItems { e := c.e, mode := .ideal } all (.ok p) p.length v is) (Py.encItems c all p v is)) ∧
    (∀ b, serWfBody b = true → ∀ v, OkLe (Pdlv.encBody { e := c.e, mode := .ideal } b v) (Py.encBody c b v)) := by
  apply Layout.induction
  case scalar =>
    intro w _ v a ha
    obtain ⟨x, rfl, _, ho, rfl⟩ := encTy_scalar_ok_iff.mp ha
    simp only [Py.encTy, if_pos ((le_maskBits_iff w x).mp (elemOutOfRange_ideal_iff.mp ho))]
  case enumTy =>
    intro nm en _ v a ha
    obtain ⟨x, rfl, hok, rfl⟩ := encTy_enumTy_ok_iff.mp ha
    simp only [Py.encTy, if_pos (enumOk_lt en x hok)]
  case custom => intro nm w hw; simp [serWfTy] at hw
  case struct =>
    intro nm b ih hw v
    cases b with
    | root nm items => exact ih hw v
    | derived => simp [serWfTy] at hw
  case chunk =>
    intro fs hw all p v
    exact OkLe.bind (encChunkFields_eq all p.length v fs 0 0 ▸
      encChunkFields_okLe (bfEnc_ideal_to_py all p.length v) fs (serWfItem_chunk fs ▸ hw) 0 0) fun _ _ => OkLe.rfl
  case typedef =>
    intro id ty sb ih hw all p v
    simp only [Pdlv.encItem, Py.encItem]
    cases v.get? id with
    | none => exact OkLe.rfl
    | some x => exact ih hw x
  case optional =>
    intro id ty cid cval ih hw all p v
    rw [encItem_optional_eq_of_ideal]
    simp only [Py.encItem]
    cases v.get? id with
    | none => exact OkLe.rfl
    | some x => cases x <;> first | exact OkLe.rfl | exact ih hw _
  case payload => intro m _ all p v; exact OkLe.rfl
  case array =>
    intro id elem ew shape pd ih hw all p v
    -- python.rs has neither the count check (`checkCount`) nor the padding check (`checkPad`)
    exact OkLe.bind OkLe.rfl fun vs _ => (OkLe.drop_check _ _).trans ((OkLe.drop_check _ _).trans
      (OkLe.bind (encListWith_okLe (ih hw) vs) fun bs _ => padTo_le_pad pd bs))
  case nil => intro _ all p v; exact OkLe.rfl
  case cons =>
    intro i r ihi ihr hw all p v
    simp only [serWfItems, Bool.and_eq_true] at hw
    exact OkLe.bind (ihi hw.1 all p v) fun _ _ => OkLe.bind (ihr hw.2 all p v) fun _ _ => OkLe.rfl
  case root =>
    intro nm items ih hw v
    simp only [Pdlv.encBody, Py.encBody]
    generalize (if items.hasPayload = true then (v.get? "payload").bind valBytes else some []) = o
    cases o with
    | none => exact OkLe.rfl
    | some p => exact ih hw items p v
  case derived => intro nm parent cs allCs items _ _ hw; simp [serWfBody] at hw

theorem ty_ideal_to_py (c : Cfg) : ∀ (ty : Ty) (v : Value) (bs : Bytes), serWfTy ty = true →
    Pdlv.encTy { e := c.e, mode := .ideal } ty v = .ok bs → Py.encTy c ty v = .ok bs :=
  fun ty v bs hw => (le_all c).1 ty hw v bs

theorem item_ideal_to_py (c : Cfg) (all : Items) (p : Bytes) (v : Value) : ∀ (i : Item) (bs : Bytes), serWfItem i = true →
    Pdlv.encItem { e := c.e, mode := .ideal } all (.ok p) p.length v i = .ok bs → Py.encItem c all p v i = .ok bs :=
  fun i bs hw => (le_all c).2.1 i hw all p v bs

theorem items_ideal_to_py (c : Cfg) (all : Items) (p : Bytes) (v : Value) : ∀ (is : Items) (bs : Bytes),
    serWfItems is = true → Pdlv.encItems { e := c.e, mode := .ideal } all (.ok p) p.length v is = .ok bs →
      Py.encItems c all p v is = .ok bs :=
  fun is bs hw => (le_all c).2.2.1 is hw all p v bs

theorem body_ideal_to_py (c : Cfg) : ∀ (b : Body) (v : Value) (bs : Bytes), serWfBody b = true →
    Pdlv.encBody { e := c.e, mode := .ideal } b v = .ok bs → Py.encBody c b v = .ok bs :=
  fun b v bs hw => (le_all c).2.2.2 b hw v bs

end Py
end Pdlv
