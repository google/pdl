/-
  Pdlv.Lemmas.List — association lists as the model uses them: `find?` and `lookup` by a key that occurs once,
  `lookup` after `filter` by key and after `map` on the values; the length of a successful `mapM`.
-/
namespace List

theorem find?_of_nodup_key {α κ : Type} [DecidableEq κ] (key : α → Option κ) {l : List α}
    (hn : (l.filterMap key).Nodup) {a : α} (ha : a ∈ l) {i : κ} (hi : key a = some i) :
    l.find? (fun b => key b == some i) = some a := by
  obtain ⟨as, bs, rfl⟩ := List.append_of_mem ha
  rw [List.filterMap_append, List.filterMap_cons, hi, List.nodup_append] at hn
  rw [List.find?_eq_some_iff_append]
  refine ⟨by simp [hi], as, bs, rfl, fun x hx => ?_⟩
  have : key x ≠ some i := fun h => hn.2.2 i (List.mem_filterMap.mpr ⟨x, hx, h⟩) i (List.mem_cons_self ..) rfl
  simpa using this

/-- `HashMap::retain` / `remove` on an association list: a filter that looks at the key only, however it is spelled
    (`fun (k, _) => q k`, `fun x => q x.1`, `(·.1 != a)`; `hp` is `fun _ _ => rfl`) -/
theorem lookup_filter_key {κ β : Type} [BEq κ] [LawfulBEq κ] (p : κ × β → Bool) (q : κ → Bool)
    (hp : ∀ a b, p (a, b) = q a) (k : κ) (l : List (κ × β)) :
    (l.filter p).lookup k = if q k then l.lookup k else none := by
  induction l with
  | nil => simp
  | cons x l ih =>
    obtain ⟨a, b⟩ := x
    by_cases hk : k = a
    · subst hk; cases hq : q k <;> simp [List.filter_cons, hp, hq, ih]
    · have hb : (k == a) = false := by simpa using hk
      cases hq : q a <;> simp [List.filter_cons, List.lookup_cons, hp, hq, hb, ih]

theorem lookup_eq_none_of_not_mem_keys {κ β : Type} [BEq κ] [LawfulBEq κ] {l : List (κ × β)} {k : κ}
    (h : k ∉ l.map Prod.fst) : l.lookup k = none :=
  List.lookup_eq_none_iff.mpr fun p hp => bne_iff_ne.mpr fun e => h (List.mem_map.mpr ⟨p, hp, e.symm⟩)

theorem lookup_of_mem_nodup {α β : Type} [BEq α] [LawfulBEq α] : ∀ (l : List (α × β)) (k : α) (x : β),
    (l.map Prod.fst).Nodup → (k, x) ∈ l → l.lookup k = some x := by
  intro l
  induction l with
  | nil => intro _ _ _ h; simp at h
  | cons p l ih =>
    obtain ⟨a, y⟩ := p
    intro k x hn h
    simp only [List.map_cons, List.nodup_cons] at hn
    simp only [List.mem_cons, Prod.mk.injEq] at h
    rcases h with ⟨rfl, rfl⟩ | h
    · simp [List.lookup]
    · have hne : k ≠ a := by
        intro e; subst e
        exact hn.1 (List.mem_map.mpr ⟨(k, x), h, rfl⟩)
      have hb : (k == a) = false := by simpa using hne
      simp only [List.lookup, hb]
      exact ih k x hn.2 h

theorem length_of_mapM_eq_some {α β : Type} (f : α → Option β) : ∀ (l : List α) (r : List β),
    l.mapM f = some r → r.length = l.length := by
  intro l
  induction l with
  | nil => intro r h; simp at h; simp [← h]
  | cons a l ih =>
    intro r h
    simp only [List.mapM_cons] at h
    cases ha : f a with
    | none => simp [ha] at h
    | some b =>
      cases hl : l.mapM f with
      | none => simp [ha, hl] at h
      | some bs =>
        simp [ha, hl] at h
        rw [← h, List.length_cons, List.length_cons, ih bs hl]

theorem lookup_map_snd {α β γ : Type} [BEq α] (f : β → γ) (k : α) : ∀ (l : List (α × β)),
    (l.map fun (a, b) => (a, f b)).lookup k = (l.lookup k).map f := by
  intro l
  induction l with
  | nil => rfl
  | cons p l ih =>
    simp only [List.map_cons, List.lookup]
    cases k == p.1
    · exact ih
    · rfl

end List
