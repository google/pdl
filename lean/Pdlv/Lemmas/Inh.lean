/-
  Pdlv.Lemmas.Inh — the fields an inheriting packet's decoder copies from its ancestors: the static search
  `bodyFind` of the class `rtWfFull` says where a name is found in `fieldsAround` (`fieldsAround_find`), used by
  the round trip through ancestors (C02).
-/
import Pdlv.Static
import Pdlv.Lemmas.List
import Pdlv.Lemmas.Layout

namespace Pdlv

/-- what the static search `find` promises about a field list -/
def FindSpec (F : List (String × Value)) (find : Option Bool) (v : Value) (k : String) : Prop :=
  (find = none → F.lookup k = none) ∧ (find = some true → F.lookup k = some ((v.get? k).getD .null))

theorem findSpec_append (A B : List (String × Value)) (fa fb : Option Bool) (v : Value) (k : String)
    (ha : FindSpec A fa v k) (hb : FindSpec B fb v k) : FindSpec (A ++ B) (fa.or fb) v k := by
  constructor
  · intro h
    cases fa with
    | some x => simp at h
    | none =>
      simp only [Option.none_or] at h
      rw [List.lookup_append, ha.1 rfl, hb.1 h]; rfl
  · intro h
    cases fa with
    | some x =>
      simp only [Option.some_or, Option.some.injEq] at h
      subst h
      rw [List.lookup_append, ha.2 rfl]; rfl
    | none =>
      simp only [Option.none_or] at h
      rw [List.lookup_append, ha.1 rfl, hb.2 h]; rfl

theorem findSpec_nil (v : Value) (k : String) : FindSpec [] none v k := by
  constructor <;> intro h <;> simp_all

/-- one field: `b` says whether it carries the value's field of that name (the scalar and enum fields of a
    chunk do) -/
theorem findSpec_one (id : String) (x : Value) (v : Value) (k : String) (b : Bool)
    (hx : b = true → x = (v.get? id).getD .null) :
    FindSpec [(id, x)] (if id == k then some b else none) v k := by
  by_cases h : id = k
  · subst h
    constructor <;> intro h' <;> simp [List.lookup] at h' ⊢
    exact hx h'
  · have hb : (k == id) = false := by simpa using fun e => h e.symm
    have hb' : (id == k) = false := by simpa using h
    constructor <;> intro h' <;> simp [List.lookup, hb, hb'] at h' ⊢

theorem canonChunk_find (v : Value) (k : String) (fs : List BitField) :
    FindSpec (canonChunk v fs) (chunkFind fs k) v k := by
  induction fs with
  | nil => exact findSpec_nil v k
  | cons f r ih =>
    have value : ∀ id, FindSpec ((id, (v.get? id).getD .null) :: canonChunk v r)
        (if id == k then some true else chunkFind r k) v k := by
      intro id
      have := findSpec_append _ _ _ _ v k (findSpec_one id _ v k true fun _ => rfl) ih
      cases h : id == k <;> simpa [h] using this
    cases f with
    | scalar id _ | enumTy id _ _ => exact value id
    | _ => simpa [canonChunk, chunkFind] using ih

theorem canonItem_find (v : Value) (k : String) (i : Item) : FindSpec (canonItem i v) (itemFind i k) v k := by
  cases i with
  | chunk fs => simpa [canonItem, itemFind] using canonChunk_find v k fs
  | payload m => simpa [canonItem, itemFind] using findSpec_nil v k
  | _ => simpa [canonItem, itemFind] using findSpec_one _ _ v k false nofun

theorem canonItems_find (v : Value) (k : String) (is : Items) : FindSpec (canonItems is v) (itemsFind is k) v k := by
  induction is using Items.induction with
  | nil => simpa [canonItems, itemsFind] using findSpec_nil v k
  | cons i r ih =>
    simp only [canonItems, itemsFind]
    exact findSpec_append _ _ _ _ v k (canonItem_find v k i) ih

theorem findSpec_filter (p : String × Value → Bool) (q : String → Bool) (hp : ∀ a b, p (a, b) = q a)
    (F : List (String × Value)) (f : Option Bool) (v : Value) (k : String)
    (h : FindSpec F f v k) : FindSpec (F.filter p) (if q k then f else none) v k := by
  rw [FindSpec, List.lookup_filter_key p q hp]
  cases hq : q k
  · simp
  · simp only [↓reduceIte]; exact h

theorem fieldsAround_find (v : Value) (k : String) (b : Body) : FindSpec (fieldsAround b v) (bodyFind b k) v k := by
  induction b using Body.induction with
  | root _ items => simpa [fieldsAround, bodyFind] using canonItems_find v k items
  | derived _ parent cs _ items ih =>
    simp only [fieldsAround, bodyFind]
    -- the filter `decode_partial` applies to the parent's fields looks at the key only
    exact findSpec_append _ _ _ _ v k (canonItems_find v k items)
      (findSpec_filter _ (fun k => k != "payload" && !(cs.any (·.1 == k))) (fun _ _ => rfl) _ _ v k ih)

end Pdlv
