/-
  Pdlv.Lemmas.Bits — `toLE` / `fromLE` / `toBE` / `fromBE` are inverse to each other, and the packing of a list of
  (width, value) pairs in three formulations (`pack`, `packOr`, `packAcc`).  The encoder model's own packing is
  `packInt` (Lemmas/ChunkEnc: `x + 2 ^ w * N` field by field, i.e. `pack` of the (width, value) pairs of the fields
  that succeed); no proof needs that bridge, so it is not stated: `pack` and its companions are statements about
  lists of numbers only.
-/
import Pdlv.Bits

namespace Pdlv

/-! ### one digit in front of a number: `v + B * n` with `v < B` -/

theorem digit_mod {v B : Nat} (n : Nat) (hv : v < B) : (v + B * n) % B = v := by
  rw [Nat.add_mul_mod_self_left]; exact Nat.mod_eq_of_lt hv

theorem digit_div {v B : Nat} (n : Nat) (hv : v < B) : (v + B * n) / B = n := by
  rw [Nat.add_mul_div_left _ _ (by omega : 0 < B), Nat.div_eq_of_lt hv, Nat.zero_add]

theorem digit_lt {v B n M : Nat} (hv : v < B) (hn : n < M) : v + B * n < B * M := by
  have : B * (n + 1) ≤ B * M := Nat.mul_le_mul_left _ hn
  rw [Nat.mul_add] at this; omega

theorem two_pow_octets_succ (k : Nat) : 2 ^ (8 * (k + 1)) = 256 * 2 ^ (8 * k) := by
  rw [Nat.mul_add, Nat.pow_add, Nat.mul_comm]

theorem toLE_length (k n : Nat) : (toLE k n).length = k := by
  induction k generalizing n with
  | zero => rfl
  | succ k ih => simp [toLE, ih]

theorem toBE_length (k n : Nat) : (toBE k n).length = k := by
  simp [toBE, toLE_length]

theorem fromLE_toLE (k n : Nat) : fromLE (toLE k n) = n % 2 ^ (8 * k) := by
  induction k generalizing n with
  | zero => simp [toLE, fromLE, Nat.mod_one]
  | succ k ih =>
    simp only [toLE, fromLE, ih]
    have h8 : (UInt8.ofNat (n % 256)).toNat = n % 256 := by
      simp [UInt8.toNat_ofNat']
    rw [h8]
    rw [two_pow_octets_succ, Nat.mod_mul]

theorem fromLE_toLE_of_lt (k n : Nat) (h : n < 2 ^ (8 * k)) : fromLE (toLE k n) = n := by
  rw [fromLE_toLE, Nat.mod_eq_of_lt h]

theorem fromBE_toBE (k n : Nat) : fromBE (toBE k n) = n % 2 ^ (8 * k) := by
  simp [fromBE, toBE, fromLE_toLE]

theorem fromLE_lt (bs : Bytes) : fromLE bs < 2 ^ (8 * bs.length) := by
  induction bs with
  | nil => simp [fromLE]
  | cons b bs ih =>
    simp only [fromLE, List.length_cons]
    have hb : b.toNat < 256 := b.toNat_lt
    rw [two_pow_octets_succ]
    exact digit_lt hb ih

theorem toLE_fromLE (bs : Bytes) : toLE bs.length (fromLE bs) = bs := by
  induction bs with
  | nil => rfl
  | cons b bs ih =>
    simp only [List.length_cons, toLE, fromLE]
    have hb : b.toNat < 256 := b.toNat_lt
    rw [digit_mod _ hb, digit_div _ hb, ih]
    simp

/-- the big-endian bytes are the little-endian bytes reversed (by definition; C17 rests on this) -/
theorem toBE_eq_reverse_toLE (k n : Nat) : toBE k n = (toLE k n).reverse := rfl

theorem toBE_fromBE (bs : Bytes) : toBE bs.length (fromBE bs) = bs := by
  have := toLE_fromLE bs.reverse
  simp only [List.length_reverse] at this
  simp [toBE, fromBE, this]

theorem fromBE_lt (bs : Bytes) : fromBE bs < 2 ^ (8 * bs.length) := by
  have := fromLE_lt bs.reverse
  simpa [fromBE] using this

/-- pack a list of (width, value), first field in the least significant bits -/
def pack : List (Nat × Nat) → Nat
  | [] => 0
  | (w, v) :: fs => v + 2 ^ w * pack fs

def widthSum : List (Nat × Nat) → Nat
  | [] => 0
  | (w, _) :: fs => w + widthSum fs

/-- extract the fields again: `(chunk >> shift) & mask(w)` at running shifts -/
def unpack : List Nat → Nat → List Nat
  | [], _ => []
  | w :: ws, n => (n % 2 ^ w) :: unpack ws (n / 2 ^ w)

def InRange : List (Nat × Nat) → Prop
  | [] => True
  | (w, v) :: fs => v < 2 ^ w ∧ InRange fs

theorem unpack_pack (fs : List (Nat × Nat)) (h : InRange fs) :
    unpack (fs.map (·.1)) (pack fs) = fs.map (·.2) := by
  induction fs with
  | nil => rfl
  | cons f fs ih =>
    obtain ⟨w, v⟩ := f
    simp only [InRange] at h
    simp only [List.map, pack, unpack]
    rw [digit_mod _ h.1, digit_div _ h.1, ih h.2]

theorem pack_lt (fs : List (Nat × Nat)) (h : InRange fs) : pack fs < 2 ^ widthSum fs := by
  induction fs with
  | nil => simp [pack, widthSum]
  | cons f fs ih =>
    obtain ⟨w, v⟩ := f
    simp only [InRange] at h
    simp only [pack, widthSum, Nat.pow_add]
    exact digit_lt h.1 (ih h.2)

/-- the Rust encoder's formulation: OR of values shifted to running offsets
    (`(v as uN) << off | …`, encoder.rs `pack_bit_fields`) -/
def packOr : Nat → List (Nat × Nat) → Nat
  | _, [] => 0
  | off, (w, v) :: fs => (v <<< off) ||| packOr (off + w) fs

theorem packOr_eq (off : Nat) (fs : List (Nat × Nat)) (h : InRange fs) :
    packOr off fs = 2 ^ off * pack fs := by
  induction fs generalizing off with
  | nil => simp [packOr, pack]
  | cons f fs ih =>
    obtain ⟨w, v⟩ := f
    simp only [InRange] at h
    simp only [packOr, pack]
    rw [ih _ h.2, Nat.shiftLeft_eq]
    have hv : v * 2 ^ off < 2 ^ (off + w) := by
      rw [Nat.pow_add, Nat.mul_comm]
      exact Nat.mul_lt_mul_of_pos_left h.1 (Nat.two_pow_pos off)
    rw [Nat.or_comm, ← Nat.two_pow_add_eq_or_of_lt hv, Nat.pow_add, Nat.mul_add, Nat.mul_assoc,
        Nat.mul_comm v]
    omega

/-- the additive accumulation `acc + x * 2^shift` at running shifts (the form `encChunkFields` uses) -/
def packAcc : Nat → Nat → List (Nat × Nat) → Nat
  | _, acc, [] => acc
  | shift, acc, (w, v) :: fs => packAcc (shift + w) (acc + v * 2 ^ shift) fs

theorem packAcc_eq (shift acc : Nat) (fs : List (Nat × Nat)) :
    packAcc shift acc fs = acc + 2 ^ shift * pack fs := by
  induction fs generalizing shift acc with
  | nil => simp [packAcc, pack]
  | cons f fs ih =>
    obtain ⟨w, v⟩ := f
    simp only [packAcc, pack, ih, Nat.pow_add, Nat.mul_add]
    rw [Nat.mul_comm v, Nat.mul_assoc, Nat.add_assoc]

end Pdlv
