/-
  Pdlv.Lemmas.ArrPlan — `decArray` split into its guards (`arrPlan`: arithmetic on lengths and context
  entries only) and the loop they select (`runArr`): `decArray_eq_runArr` walks the twelve cases once, so that a
  statement about `decArray` can be proved as one about a plan and one about a loop.  The plan is read both ways:
  from a loop that ran to the guards that held, and from the encoder's facts to the loop that runs.
-/
import Pdlv.Lemmas.Outcome

namespace Pdlv

theorem decRepeat_succ_ok_iff {f : Bytes → Dec (Value × Bytes)} {n : Nat} {bs r : Bytes} {vs : List Value} :
    decRepeat f (n + 1) bs = .ok (vs, r) ↔
      ∃ v b1 vs', f bs = .ok (v, b1) ∧ decRepeat f n b1 = .ok (vs', r) ∧ vs = v :: vs' := by
  simp only [decRepeat, Outcome.bind_ok_iff, Prod.exists, Outcome.ok.injEq, Prod.mk.injEq]
  exact ⟨fun ⟨v, b1, h1, vs', _, h2, e1, e2⟩ => ⟨v, b1, vs', h1, e2 ▸ h2, e1.symm⟩,
    fun ⟨v, b1, vs', h1, h2, e⟩ => ⟨v, b1, h1, vs', r, h2, e.symm, rfl⟩⟩

/-- one turn of `while !span.is_empty()`: the span is empty, or an element is read that consumes something -/
theorem decWhile_succ_ok_iff {f : Bytes → Dec (Value × Bytes)} {fuel : Nat} {bs : Bytes} {vs : List Value} :
    decWhile f (fuel + 1) bs = .ok vs ↔
      (bs = [] ∧ vs = []) ∨
      ∃ x b1 xs, f bs = .ok (x, b1) ∧ b1.length < bs.length ∧ decWhile f fuel b1 = .ok xs ∧ vs = x :: xs := by
  cases bs with
  | nil =>
    simp only [decWhile, List.isEmpty_nil, ↓reduceIte, Outcome.ok.injEq, List.length_nil, Nat.not_lt_zero, false_and,
      and_false, exists_false, or_false, true_and]
    exact eq_comm
  | cons b bs =>
    simp only [decWhile, List.isEmpty_cons, Bool.false_eq_true, ↓reduceIte, Outcome.bind_ok_iff,
      Outcome.ite_else_panic_eq_ok, Outcome.ok.injEq, Prod.exists, reduceCtorEq, false_and, false_or]
    exact ⟨fun ⟨x, b1, h1, hl, xs, h3, e⟩ => ⟨x, b1, xs, h1, hl, h3, e.symm⟩,
      fun ⟨x, b1, xs, h1, hl, h3, e⟩ => ⟨x, b1, h1, hl, xs, h3, e.symm⟩⟩

theorem umulM_eq (m : Mode) (a b : Nat) :
    umulM m a b = if a * b < usizeMax then .ok (a * b)
      else match m with | .rust => .panic .mulOverflow | .ideal => .err .length := by
  cases m <;> rfl

/-- what `decArray` does once its guards on lengths and context entries are evaluated: stop, or run
    one loop over the element decoder and hand back `sp.drop k` -/
inductive ArrPlan
  | err (e : DecErr)
  | panic (h : Hazard)
  /-- `decRepeat el n sp` -/
  | rep (n : Nat)
  /-- `decWhile` over `sp.take k`; leaves `sp.drop k` -/
  | whl (k : Nat)
  /-- `decChunked el es n sp`, with `unwrapArr n` if `exactly`; leaves `sp.drop k` -/
  | chunked (es n k : Nat) (exactly : Bool)
  /-- reference mode, element size 0: `n` elements decoded from no octets; leaves `sp` -/
  | zero (n : Nat)

namespace ArrPlan
def ofDec (x : Dec Nat) (k : Nat → ArrPlan) : ArrPlan :=
  match x with
  | .ok a => k a
  | .err e => .err e
  | .panic h => .panic h

/-- a context entry the case reads -/
def need (o : Option Nat) (k : Nat → ArrPlan) : ArrPlan :=
  match o with
  | none => .panic .badLayout
  | some a => k a

/-- `sz` octets split into elements of `w` octets -/
def divides (w sz : Nat) (zero : ArrPlan) (k : Nat → ArrPlan) : ArrPlan :=
  if w = 0 then zero else if sz % w ≠ 0 then .err .arraySize else k (sz / w)

/-- an element size of 0 where the emitted code calls `chunks(0)` -/
def chunksZero (m : Mode) (n : Nat) : ArrPlan :=
  match m with
  | .rust => .panic .chunksZero
  | .ideal => .zero n
end ArrPlan

/-- the guards of `decArray`; they see the span only through its length -/
def arrPlan (m : Mode) (ew : ElemWidth) (shape : Shape) (cnt siz esz : Option Nat) (len : Nat) : ArrPlan :=
  let fits (tot : Nat) (p : ArrPlan) : ArrPlan := if len < tot then .err .length else p
  let remZero (sz : Nat) : ArrPlan :=
    if m == .ideal then (if sz = 0 then .rep 0 else .err .arraySize) else .panic .remZero
  match ew, shape with
  | .unknown, .sizeField => .need siz fun sz => fits sz (.whl sz)
  | .unknown, .static n => .rep n
  | .unknown, .countField => .need cnt .rep
  | .unknown, .unknown => .whl len
  | .static w, .static n => fits (n * w) (.rep n)
  | .static w, .countField => .need cnt fun n => .ofDec (umulM m n w) fun tot => fits tot (.rep n)
  | .static w, .sizeField => .need siz fun sz => fits sz (.divides w sz (.panic .remZero) .rep)
  | .static w, .unknown => .divides w len (.panic .remZero) .rep
  | .dynamic, .static n => .need esz fun es =>
      .ofDec (if n = 1 then .ok es else umulM m n es) fun tot =>
        fits tot (if es = 0 then .chunksZero m n else .chunked es n tot true)
  | .dynamic, .countField => .need esz fun es => .need cnt fun n =>
      .ofDec (umulM m n es) fun tot => fits tot (if es = 0 then .chunksZero m n else .chunked es n tot false)
  | .dynamic, .sizeField => .need esz fun es => .need siz fun sz =>
      fits sz (.divides es sz (remZero sz) fun n => .chunked es n sz false)
  | .dynamic, .unknown => .need esz fun es => .divides es len (remZero len) fun n => .chunked es n len false

def runArr (el : Bytes → Dec (Value × Bytes)) (sp : Bytes) : ArrPlan → Dec (List Value × Bytes)
  | .err e => .err e
  | .panic h => .panic h
  | .rep n => decRepeat el n sp
  | .whl k => (decWhile el (k + 1) (sp.take k)).bind fun vs => .ok (vs, sp.drop k)
  | .chunked es n k exactly =>
    (decChunked el es n sp).bind fun vs => (if exactly then unwrapArr n vs else .ok vs).bind fun vs => .ok (vs, sp.drop k)
  | .zero n => zeroElem .ideal el n .chunksZero sp

section
variable (el : Bytes → Dec (Value × Bytes)) (sp : Bytes)

theorem runArr_ofDec (x : Dec Nat) (k : Nat → ArrPlan) :
    runArr el sp (.ofDec x k) = x.bind fun a => runArr el sp (k a) := by cases x <;> rfl

theorem runArr_need (o : Option Nat) (k : Nat → ArrPlan) :
    runArr el sp (.need o k) = match o with | none => .panic .badLayout | some a => runArr el sp (k a) := by
  cases o <;> rfl

theorem runArr_divides (w sz : Nat) (zero : ArrPlan) (k : Nat → ArrPlan) :
    runArr el sp (.divides w sz zero k) =
      if w = 0 then runArr el sp zero else if sz % w ≠ 0 then .err .arraySize else runArr el sp (k (sz / w)) := by
  simp only [ArrPlan.divides, apply_ite (runArr el sp)]; rfl

theorem runArr_chunksZero (m : Mode) (n : Nat) :
    runArr el sp (.chunksZero m n) = zeroElem m el n .chunksZero sp := by cases m <;> rfl

-- `runArr` on each constructor, for `simp only`: unfolding `runArr` itself would expose its `match` on plans that
-- `need`, `ofDec` and `divides` have not yet resolved
theorem runArr_err (e : DecErr) : runArr el sp (.err e) = .err e := rfl
theorem runArr_panic (h : Hazard) : runArr el sp (.panic h) = .panic h := rfl
theorem runArr_rep (n : Nat) : runArr el sp (.rep n) = decRepeat el n sp := rfl
theorem runArr_whl (k : Nat) :
    runArr el sp (.whl k) = (decWhile el (k + 1) (sp.take k)).bind fun vs => .ok (vs, sp.drop k) := rfl
theorem runArr_chunked (es n k : Nat) (exactly : Bool) :
    runArr el sp (.chunked es n k exactly) =
      (decChunked el es n sp).bind fun vs =>
        (if exactly then unwrapArr n vs else .ok vs).bind fun vs => .ok (vs, sp.drop k) := rfl
theorem runArr_zero (n : Nat) : runArr el sp (.zero n) = zeroElem .ideal el n .chunksZero sp := rfl
end

/-- the remainder of a successful run: that of the counted loop, or `drop` (the loops over a delimited
    span do not thread the remainder) -/
theorem runArr_rest {el : Bytes → Dec (Value × Bytes)} {sp : Bytes} {p : ArrPlan} {vs : List Value} {r : Bytes}
    (h : runArr el sp p = .ok (vs, r)) : (∃ n, decRepeat el n sp = .ok (vs, r)) ∨ ∃ k, r = sp.drop k := by
  cases p with
  | err e => cases h
  | panic q => cases h
  | rep n => exact .inl ⟨n, h⟩
  | whl k =>
    simp only [runArr, Outcome.bind_ok_iff] at h
    obtain ⟨_, _, h⟩ := h
    cases h; exact .inr ⟨k, rfl⟩
  | chunked es n k b =>
    simp only [runArr, Outcome.bind_ok_iff] at h
    obtain ⟨_, _, _, _, h⟩ := h
    cases h; exact .inr ⟨k, rfl⟩
  | zero n =>
    simp only [runArr, zeroElem, Outcome.bind_ok_iff] at h
    obtain ⟨_, _, h⟩ := h
    cases h; exact .inr ⟨0, rfl⟩

theorem decRepeat_length {f : Bytes → Dec (Value × Bytes)} {n : Nat} {bs : Bytes} {vs : List Value} {r : Bytes}
    (h : decRepeat f n bs = .ok (vs, r)) : vs.length = n := by
  induction n generalizing bs vs with
  | zero => cases h; rfl
  | succ n ih =>
    obtain ⟨v, b1, vs', _, h2, rfl⟩ := decRepeat_succ_ok_iff.mp h
    rw [List.length_cons, ih h2]

/-- `<[T; N]>::try_from(vec).unwrap()` after a counted loop never fails -/
theorem decRepeat_unwrap (f : Bytes → Dec (Value × Bytes)) (n : Nat) (bs : Bytes) :
    ((decRepeat f n bs).bind fun (vs, r) => (unwrapArr n vs).bind fun vs => .ok (vs, r)) = decRepeat f n bs := by
  cases h : decRepeat f n bs with
  | ok p => simp [unwrapArr, decRepeat_length (vs := p.1) (r := p.2) h]
  | err e => rfl
  | panic q => rfl

theorem decArray_eq_runArr (m : Mode) (el : Bytes → Dec (Value × Bytes)) (ew : ElemWidth) (shape : Shape)
    (cnt siz esz : Option Nat) (sp : Bytes) :
    decArray m el ew shape cnt siz esz sp = runArr el sp (arrPlan m ew shape cnt siz esz sp.length) := by
  unfold decArray arrPlan
  cases ew <;> cases shape <;>
    simp only [runArr_need, runArr_ofDec, runArr_divides, apply_ite (runArr el sp), runArr_err, runArr_panic, runArr_rep,
      runArr_whl, runArr_chunked, runArr_chunksZero, decRepeat_unwrap, ↓reduceIte, Bool.false_eq_true, Outcome.ok_bind,
      List.take_length, List.drop_length]
  -- `decArray` matches the two context entries of these cases together, the plan one after the other
  case dynamic.countField => cases esz <;> cases cnt <;> rfl
  case dynamic.sizeField => cases esz <;> cases siz <;> rfl
  all_goals rfl

theorem arrayKeysOk_iff {ew : ElemWidth} {shape : Shape} {cnt siz esz : Option Nat} :
    arrayKeysOk ew shape cnt siz esz = true ↔
      (shape = .countField → cnt.isSome) ∧ (shape = .sizeField → siz.isSome) ∧ (ew = .dynamic → esz.isSome) := by
  unfold arrayKeysOk
  rw [Bool.and_eq_true, ← and_assoc]
  refine and_congr ?_ ?_
  · cases shape <;> simp
  · cases ew <;> simp

/-- without a context entry it reads, an array case stops by itself, as `decItem` does before it -/
theorem decArray_of_not_keys {m : Mode} {el : Bytes → Dec (Value × Bytes)} {ew : ElemWidth} {shape : Shape}
    {cnt siz esz : Option Nat} (h : arrayKeysOk ew shape cnt siz esz = false) (sp : Bytes) :
    decArray m el ew shape cnt siz esz sp = .panic .badLayout := by
  rw [decArray_eq_runArr]
  cases ew with
  | «static» w | unknown =>
    cases shape with
    | countField => cases cnt with | none => rfl | some _ => cases h
    | sizeField => cases siz with | none => rfl | some _ => cases h
    | «static» n | unknown => cases h
  | dynamic =>
    cases esz with
    | none => cases shape <;> rfl
    | some es =>
      cases shape with
      | countField => cases cnt with | none => rfl | some _ => cases h
      | sizeField => cases siz with | none => rfl | some _ => cases h
      | «static» n | unknown => cases h

theorem decArray_static_static (m : Mode) (el : Bytes → Dec (Value × Bytes)) (w n : Nat) (cnt siz esz : Option Nat)
    (sp : Bytes) :
    decArray m el (.static w) (.static n) cnt siz esz sp =
      if sp.length < n * w then .err .length else decRepeat el n sp := by
  rw [decArray_eq_runArr, arrPlan, apply_ite (runArr el sp)]; rfl

/-! ### the plan read backwards: which guards held when a loop was run -/

namespace ArrPlan
def isLoop : ArrPlan → Bool
  | .err _ | .panic _ => false
  | _ => true

theorem isLoop_of_run_ok {el : Bytes → Dec (Value × Bytes)} {sp : Bytes} {p : ArrPlan} {x : List Value × Bytes}
    (h : runArr el sp p = .ok x) : p.isLoop = true := by
  cases p with
  | err e => cases h
  | panic q => cases h
  | _ => rfl

theorem need_eq {o : Option Nat} {k : Nat → ArrPlan} {q : ArrPlan} (hq : q.isLoop = true) :
    need o k = q ↔ ∃ a, o = some a ∧ k a = q := by
  cases o <;> simp [need]; intro h; subst h; cases hq

theorem ofDec_eq {x : Dec Nat} {k : Nat → ArrPlan} {q : ArrPlan} (hq : q.isLoop = true) :
    ofDec x k = q ↔ ∃ a, x = .ok a ∧ k a = q := by
  cases x <;> simp [ofDec] <;> (intro h; subst h; cases hq)

theorem fits_eq {c : Prop} [Decidable c] {e : DecErr} {p q : ArrPlan} (hq : q.isLoop = true) :
    (if c then .err e else p) = q ↔ ¬ c ∧ p = q := by
  split <;> simp [*]; intro h; subst h; cases hq

theorem divides_eq {w sz : Nat} {h : Hazard} {k : Nat → ArrPlan} {q : ArrPlan} (hq : q.isLoop = true) :
    divides w sz (.panic h) k = q ↔ 0 < w ∧ sz % w = 0 ∧ k (sz / w) = q := by
  unfold divides
  by_cases hw : w = 0
  · rw [if_pos hw]
    exact ⟨fun e => (by subst e; cases hq), fun h => absurd hw (Nat.pos_iff_ne_zero.mp h.1)⟩
  · rw [if_neg hw]
    by_cases hm : sz % w ≠ 0
    · rw [if_pos hm]
      exact ⟨fun e => (by subst e; cases hq), fun h => (hm h.2.1).elim⟩
    · rw [if_neg hm]
      exact ⟨fun e => ⟨Nat.pos_of_ne_zero hw, Decidable.not_not.mp hm, e⟩, fun h => h.2.2⟩
end ArrPlan

/-- **the eight cases without element-size field, read backwards**: a loop that runs is the counted loop
    with the count the shape prescribes (a size field holds that many elements of the static width), or the
    greedy loop over a span the shape delimits -/
theorem arrPlan_nondyn {m : Mode} {ew : ElemWidth} {shape : Shape} {cnt siz esz : Option Nat} {len : Nat} {q : ArrPlan}
    (hew : ew ≠ .dynamic) (hq : q.isLoop = true) (h : arrPlan m ew shape cnt siz esz len = q) :
    (∃ n, q = .rep n ∧ (∀ k, shape = .static k → n = k) ∧ (shape = .countField → cnt = some n) ∧
      (shape = .sizeField → ∃ w, ew = .static w ∧ siz = some (n * w))) ∨
    (∃ k, q = .whl k ∧ k ≤ len ∧ (∀ n, shape ≠ .static n) ∧ shape ≠ .countField ∧ (shape = .sizeField → siz = some k)) := by
  cases ew with
  | dynamic => exact absurd rfl hew
  | «static» w =>
    cases shape <;>
      simp only [arrPlan, ArrPlan.need_eq hq, ArrPlan.ofDec_eq hq, ArrPlan.fits_eq hq, ArrPlan.divides_eq hq] at h
    · obtain ⟨_, rfl⟩ := h
      exact .inl ⟨_, rfl, fun k hk => by cases hk; rfl, nofun, nofun⟩
    · obtain ⟨a, hc, _, _, _, rfl⟩ := h
      exact .inl ⟨_, rfl, nofun, fun _ => hc, nofun⟩
    · obtain ⟨a, hs, _, _, hm, rfl⟩ := h
      exact .inl ⟨_, rfl, nofun, nofun, fun _ => ⟨w, rfl, by rw [hs, Nat.div_mul_cancel (Nat.dvd_of_mod_eq_zero hm)]⟩⟩
    · obtain ⟨_, _, rfl⟩ := h
      exact .inl ⟨_, rfl, nofun, nofun, nofun⟩
  | unknown =>
    cases shape <;> simp only [arrPlan, ArrPlan.need_eq hq, ArrPlan.fits_eq hq] at h
    · subst h
      exact .inl ⟨_, rfl, fun k hk => by cases hk; rfl, nofun, nofun⟩
    · obtain ⟨a, hc, rfl⟩ := h
      exact .inl ⟨_, rfl, nofun, fun _ => hc, nofun⟩
    · obtain ⟨a, hs, hl, rfl⟩ := h
      exact .inr ⟨a, rfl, Nat.not_lt.mp hl, nofun, nofun, fun _ => hs⟩
    · subst h
      exact .inr ⟨len, rfl, Nat.le_refl _, nofun, nofun, nofun⟩

theorem umulM_ok_iff {m : Mode} {a b t : Nat} : umulM m a b = .ok t ↔ a * b < usizeMax ∧ t = a * b := by
  rw [umulM_eq]
  by_cases h : a * b < usizeMax
  · rw [if_pos h]; exact ⟨fun e => ⟨h, (Outcome.ok.inj e).symm⟩, fun e => e.2 ▸ rfl⟩
  · rw [if_neg h]; exact ⟨fun e => (by cases m <;> cases e), fun e => absurd e.1 h⟩

/-- **the four cases of a static element width, both ways**: when the counted loop runs, and how often -/
theorem arrPlan_static_rep_iff {m : Mode} {w : Nat} {shape : Shape} {cnt siz esz : Option Nat} {len n : Nat} :
    arrPlan m (.static w) shape cnt siz esz len = .rep n ↔
      match shape with
      | .static k => k * w ≤ len ∧ k = n
      | .countField => cnt = some n ∧ n * w < usizeMax ∧ n * w ≤ len
      | .sizeField => ∃ sz, siz = some sz ∧ sz ≤ len ∧ 0 < w ∧ sz % w = 0 ∧ sz / w = n
      | .unknown => 0 < w ∧ len % w = 0 ∧ len / w = n := by
  have hq : (ArrPlan.rep n).isLoop = true := rfl
  cases shape <;>
    simp only [arrPlan, ArrPlan.need_eq hq, ArrPlan.ofDec_eq hq, ArrPlan.fits_eq hq, ArrPlan.divides_eq hq, umulM_ok_iff,
      ArrPlan.rep.injEq, Nat.not_lt]
  exact ⟨fun ⟨a, hc, t, ⟨hu, ht⟩, hl, e⟩ => e ▸ ⟨hc, hu, ht ▸ hl⟩, fun ⟨hc, hu, hl⟩ => ⟨n, hc, _, ⟨hu, rfl⟩, hl, rfl⟩⟩

/-! ### the plan read forwards: on the encoding of the values, which loop runs -/

/-- what the array decoder is given, relative to the encoded elements `es` of the values `vs` -/
structure ArrFacts (ew : ElemWidth) (shape : Shape) (cnt siz : Option Nat) (vs : List Value) (es rest : Bytes) : Prop where
  count : shape = .countField → cnt = some vs.length
  size : shape = .sizeField → siz = some es.length
  fixed : ∀ n, shape = .static n → vs.length = n
  greedy : shape = .unknown → rest = []
  notDyn : ew ≠ .dynamic

/-- the eight cases without element-size field: on the encoding of `vs` followed by `rest`, with the count / size
    the encoder wrote, every guard of `decArray` passes -/
theorem arrPlan_of_facts (m : Mode) (ew : ElemWidth) (shape : Shape) (cnt siz esz : Option Nat)
    (vs : List Value) (es rest : Bytes) (hb : (es ++ rest).length < usizeMax)
    (hf : ArrFacts ew shape cnt siz vs es rest) (hstat : ∀ w, ew = .static w → 0 < w ∧ es.length = vs.length * w) :
    arrPlan m ew shape cnt siz esz (es ++ rest).length =
      if ew = .unknown ∧ (shape = .sizeField ∨ shape = .unknown) then .whl es.length else .rep vs.length := by
  simp only [List.length_append] at hb ⊢
  cases ew with
  | dynamic => exact absurd rfl hf.notDyn
  | «static» w =>
    obtain ⟨hw, hlen⟩ := hstat w rfl
    have hdiv : es.length / w = vs.length := by rw [hlen]; exact Nat.mul_div_cancel _ hw
    have hmod : es.length % w = 0 := by rw [hlen]; exact Nat.mul_mod_left ..
    rw [if_neg (by simp)]
    refine arrPlan_static_rep_iff.mpr ?_
    cases shape with
    | «static» n => exact ⟨by rw [← hf.fixed n rfl, ← hlen]; exact Nat.le_add_right .., (hf.fixed n rfl).symm⟩
    | countField =>
      exact ⟨hf.count rfl, by rw [← hlen]; exact Nat.lt_of_le_of_lt (Nat.le_add_right ..) hb,
        by rw [← hlen]; exact Nat.le_add_right ..⟩
    | sizeField => exact ⟨es.length, hf.size rfl, Nat.le_add_right .., hw, hmod, hdiv⟩
    | unknown =>
      rw [hf.greedy rfl, List.length_nil, Nat.add_zero]
      exact ⟨hw, hmod, hdiv⟩
  | unknown =>
    cases shape with
    | «static» n => simp [arrPlan, hf.fixed n rfl]
    | countField => simp [arrPlan, hf.count rfl, ArrPlan.need]
    | sizeField => simp [arrPlan, hf.size rfl, ArrPlan.need]
    | unknown => simp [arrPlan, hf.greedy rfl]

end Pdlv
