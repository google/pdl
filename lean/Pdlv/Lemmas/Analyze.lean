/-
  Pdlv.Lemmas.Analyze — `analyze` as a chain of steps of five kinds (`firstErr`, `Res.bind`, `bindE`, `bindO`,
  `panicIf`) with an inversion lemma per kind for the outcomes `.ok` and `.panic`, and for `.diags` of `firstErr`:
  statements about the pipeline as a whole follow from `analyze_eq` by `simp only` with these.  About single
  passes: `lookupDecl` under distinct identifiers, `perDecl`, and the duplicate scan that the scope pass and the
  field-identifier pass share (`dupScan_nil_iff`, with its two instances).
-/
import Pdlv.Analyzer
import Pdlv.Lemmas.List

namespace Pdlv
namespace Analyzer

variable {α β : Type}

def Res.bind (x : Res α) (k : α → Res β) : Res β :=
  match x with
  | .diags ds => .diags ds
  | .panic p => .panic p
  | .ok a => k a

def bindE (x : Except APanic α) (k : α → Res β) : Res β :=
  match x with
  | .error p => .panic p
  | .ok a => k a

def bindO (x : Option α) (p : APanic) (k : α → Res β) : Res β :=
  match x with
  | none => .panic p
  | some a => k a

def panicIf (b : Bool) (p : APanic) (k : Unit → Res β) : Res β := if b then .panic p else k ()

-- Without the option defeq does not unfold a stuck matcher, and the matchers of `analyze` are not those of `bind`,
-- `bindE`, `bindO` (whose arms are in the order `analyze` writes them, or the two sides would differ even so).
set_option smartUnfolding false in
theorem analyze_eq (f : File) : analyze f =
    firstErr (scopeDiags f) fun _ =>
    (checkDeclIdentifiers f).bind fun g =>
    firstErr (checkFieldIdentifiers g) fun _ =>
    firstErr (checkEnumDeclarations g) fun _ =>
    firstErr (checkSizeFields g) fun _ =>
    firstErr (checkFixedFields g) fun _ =>
    firstErr (checkPayloadFields g) fun _ =>
    firstErr (checkArrayFields g) fun _ =>
    firstErr (checkPaddingFields g) fun _ =>
    (checkOptionalFields g).bind fun _ =>
    (checkGroupConstraints g).bind fun _ =>
    bindE (inlineGroups g) fun g1 =>
    bindE (desugarFlags g1) fun g2 =>
    firstErr (scopeDiags g2) fun _ =>
    (checkDeclConstraints g2).bind fun _ =>
    panicIf (schemaPanics g2) .schemaOverflow fun _ =>
    bindO (Schema.build g2) .schemaLookup fun sc =>
    panicIf (schemaOverflows sc || schemaSumOverflows g2 sc) .schemaOverflow fun _ =>
    (checkFieldOffsets g2 sc).bind fun _ =>
    panicIf (declSizesOverflow g2 sc) .offsetOverflow fun _ =>
    firstErr (checkDeclSizes g2 sc) fun _ => .ok g2 := by
  rfl

variable {ds : List Diag} {kf : Unit → Res File} {b : β} {p q : APanic}

theorem exists_unit {P : Unit → Prop} : (∃ a, P a) ↔ P () := ⟨fun ⟨_, h⟩ => h, fun h => ⟨(), h⟩⟩

theorem firstErr_eq_ok {b : File} : firstErr ds kf = .ok b ↔ ds = [] ∧ kf () = .ok b := by
  cases ds <;> simp [firstErr]

theorem firstErr_eq_diags {d : List Diag} :
    firstErr ds kf = .diags d ↔ (ds ≠ [] ∧ d = ds) ∨ (ds = [] ∧ kf () = .diags d) := by
  cases ds <;> simp [firstErr, eq_comm]

theorem firstErr_eq_panic : firstErr ds kf = .panic p ↔ ds = [] ∧ kf () = .panic p := by
  cases ds <;> simp [firstErr]

theorem Res.bind_eq_ok {x : Res α} {k : α → Res β} : x.bind k = .ok b ↔ ∃ a, x = .ok a ∧ k a = .ok b := by
  cases x <;> simp [Res.bind]

theorem Res.bind_eq_panic {x : Res α} {k : α → Res β} :
    x.bind k = .panic p ↔ x = .panic p ∨ ∃ a, x = .ok a ∧ k a = .panic p := by
  cases x <;> simp [Res.bind]

theorem bindE_eq_ok {x : Except APanic α} {k : α → Res β} : bindE x k = .ok b ↔ ∃ a, x = .ok a ∧ k a = .ok b := by
  cases x <;> simp [bindE]

theorem bindE_eq_panic {x : Except APanic α} {k : α → Res β} :
    bindE x k = .panic p ↔ x = .error p ∨ ∃ a, x = .ok a ∧ k a = .panic p := by
  cases x <;> simp [bindE]

theorem bindO_eq_ok {x : Option α} {k : α → Res β} : bindO x q k = .ok b ↔ ∃ a, x = some a ∧ k a = .ok b := by
  cases x <;> simp [bindO]

theorem bindO_eq_panic {x : Option α} {k : α → Res β} :
    bindO x q k = .panic p ↔ (x = none ∧ p = q) ∨ ∃ a, x = some a ∧ k a = .panic p := by
  cases x <;> simp [bindO, eq_comm]

theorem panicIf_eq_ok {c : Bool} {k : Unit → Res β} : panicIf c q k = .ok b ↔ c = false ∧ k () = .ok b := by
  cases c <;> simp [panicIf]

theorem panicIf_eq_panic {c : Bool} {k : Unit → Res β} :
    panicIf c q k = .panic p ↔ (c = true ∧ p = q) ∨ (c = false ∧ k () = .panic p) := by
  cases c <;> simp [panicIf, eq_comm]

theorem analyze_ok_iff (f f' : File) : analyze f = .ok f' ↔
    scopeDiags f = [] ∧ ∃ g, checkDeclIdentifiers f = .ok g ∧ checkFieldIdentifiers g = [] ∧
      checkEnumDeclarations g = [] ∧ checkSizeFields g = [] ∧ checkFixedFields g = [] ∧
      checkPayloadFields g = [] ∧ checkArrayFields g = [] ∧ checkPaddingFields g = [] ∧
      checkOptionalFields g = .ok () ∧ checkGroupConstraints g = .ok () ∧
      ∃ g1, inlineGroups g = .ok g1 ∧ ∃ g2, desugarFlags g1 = .ok g2 ∧ scopeDiags g2 = [] ∧
      checkDeclConstraints g2 = .ok () ∧ schemaPanics g2 = false ∧ ∃ sc, Schema.build g2 = some sc ∧
      (schemaOverflows sc || schemaSumOverflows g2 sc) = false ∧ checkFieldOffsets g2 sc = .ok () ∧
      declSizesOverflow g2 sc = false ∧ checkDeclSizes g2 sc = [] ∧ g2 = f' := by
  simp only [analyze_eq, firstErr_eq_ok, Res.bind_eq_ok, bindE_eq_ok, bindO_eq_ok, panicIf_eq_ok, Res.ok.injEq, exists_unit]

def declIds (f : File) : List String := f.decls.filterMap Decl.id?

theorem lookupDecl_eq_some_iff (f : File) (hn : (declIds f).Nodup) (id : String) (d : Decl) :
    lookupDecl f id = some d ↔ d ∈ f.decls ∧ d.id? = some id := by
  unfold lookupDecl
  constructor
  · intro h
    exact ⟨List.mem_reverse.mp (List.mem_of_find?_eq_some h), by simpa using List.find?_some h⟩
  · rintro ⟨hd, hid⟩
    exact List.find?_of_nodup_key Decl.id? (List.filterMap_reverse ▸ (List.reverse_perm _).nodup_iff.mpr hn)
      (List.mem_reverse.mpr hd) hid

theorem perDecl_eq_nil_iff {f : File} {g : Decl → List Diag} : perDecl f g = [] ↔ ∀ d ∈ f.decls, g d = [] :=
  List.flatMap_eq_nil_iff

/-- The duplicate scan of `Scope::new` (E1) and of `check_field_identifiers` (E11).  `go` is any function that walks
    the list as the scan does: it skips an element without identifier, reports one whose identifier has been seen,
    and records a new identifier.  (Stated without `match`, so that the equations of either pass prove the
    hypotheses by `simp only`: an equation with a `match` is not that of another declaration, see `analyze_eq`.) -/
theorem dupScan_nil_iff {α : Type} (key : α → Option String) (go : List (String × α) → List α → List Diag)
    (go_nil : ∀ seen, go seen [] = [])
    (go_none : ∀ seen a l, key a = none → go seen (a :: l) = go seen l)
    (go_dup : ∀ seen a l id prev, key a = some id → seen.lookup id = some prev → go seen (a :: l) ≠ [])
    (go_new : ∀ seen a l id, key a = some id → seen.lookup id = none → go seen (a :: l) = go ((id, a) :: seen) l)
    (l : List α) :
    ∀ seen, go seen l = [] ↔ (l.filterMap key).Nodup ∧ ∀ id ∈ l.filterMap key, seen.lookup id = none := by
  induction l with
  | nil => intro seen; simp only [go_nil, List.filterMap_nil, List.nodup_nil, List.not_mem_nil, false_implies, implies_true, and_self]
  | cons a l ih =>
    intro seen
    cases hk : key a with
    | none => simp only [go_none _ _ _ hk, List.filterMap_cons, hk, ih]
    | some id =>
      simp only [List.filterMap_cons, hk, List.nodup_cons, List.mem_cons, forall_eq_or_imp]
      cases hl : seen.lookup id with
      | some prev => simp only [go_dup _ _ _ _ _ hk hl, reduceCtorEq, false_and, and_false]
      | none =>
        -- `id` is new: afterwards it counts as seen, so it must not occur again
        simp only [go_new _ _ _ _ hk hl, ih, List.lookup_cons, true_and]
        constructor
        · rintro ⟨hnd, hall⟩
          refine ⟨⟨fun hmem => by simpa using hall id hmem, hnd⟩, fun x hx => ?_⟩
          have := hall x hx
          split at this
          · cases this
          · exact this
        · rintro ⟨⟨hnot, hnd⟩, hall⟩
          refine ⟨hnd, fun x hx => ?_⟩
          have : (x == id) = false := by simpa using fun (e : x = id) => hnot (e ▸ hx)
          simpa [this] using hall x hx

theorem scopeGo_nil_iff (seen : List (String × Decl)) (ds : List Decl) :
    scopeDiags.go seen ds = [] ↔
      (ds.filterMap Decl.id?).Nodup ∧ ∀ id ∈ ds.filterMap Decl.id?, seen.lookup id = none :=
  dupScan_nil_iff Decl.id? scopeDiags.go (fun _ => rfl) (fun _ _ _ h => by simp only [scopeDiags.go, h])
    (fun _ _ _ _ _ h1 h2 => by simp [scopeDiags.go, h1, h2]) (fun _ _ _ _ h1 h2 => by simp only [scopeDiags.go, h1, h2])
    ds seen

def fieldIds (fs : List Field) : List String := fs.filterMap Field.id?

theorem fieldIdGo_nil_iff (seen : List (String × Field)) (fs : List Field) :
    checkFieldIdentifiers.go seen fs = [] ↔
      (fieldIds fs).Nodup ∧ ∀ id ∈ fieldIds fs, seen.lookup id = none :=
  dupScan_nil_iff Field.id? checkFieldIdentifiers.go (fun _ => rfl)
    (fun _ _ _ h => by simp only [checkFieldIdentifiers.go, h])
    (fun _ _ _ _ _ h1 h2 => by simp [checkFieldIdentifiers.go, h1, h2])
    (fun _ _ _ _ h1 h2 => by simp only [checkFieldIdentifiers.go, h1, h2]) fs seen

end Analyzer
end Pdlv
