/-
  Pdlv.Lemmas.Enc — the encoder model's building blocks: how long what they write is, and, one lemma per
  definition / constructor, when they succeed (`…_ok_iff`).  Statements about what a successful `encTy …
  encAround` wrote go through these; statements about its failures (C05, no panic) follow the encoder itself.
-/
import Pdlv.Lemmas.OkLe
import Pdlv.Lemmas.Bits
import Pdlv.Static
import Pdlv.Lemmas.List

namespace Pdlv
open Outcome

theorem putUint_length (e : Endian) (w v : Nat) : (putUint e w v).length = w / 8 := by
  cases e <;> simp [putUint, toLE_length, toBE_length]

theorem encPayload_verbatim (c : Cfg) (all : Items) (p : Bytes) (n : Nat) (v : Value) (m : PayloadMode) :
    encItem c all (.ok p) n v (.payload m) = .ok p := by
  simp only [encItem]

/-- element loops: if every element's encoding has the length `g` promises, the array's
    encoding has the summed length (`iter().map(encoded_len).sum()`) -/
theorem encListWith_length (f : Value → Enc Bytes) (g : Value → Nat)
    (hf : ∀ v bs, f v = .ok bs → bs.length = g v) :
    ∀ vs bs, encListWith f vs = .ok bs → bs.length = sumLen g vs := by
  intro vs
  induction vs with
  | nil => intro bs h; cases h; rfl
  | cons v vs ih =>
    intro bs h
    simp only [encListWith, bind_ok_iff] at h
    obtain ⟨a, ha, b, hb, h⟩ := h
    cases h
    rw [List.length_append, hf v a ha, ih b hb, sumLen]

/-- **integers round-trip at every width and in both byte orders**: what `put_uint{_le}(v, k)`
    writes, `get_uint{_le}(k)` reads back — for every k and every v that fits -/
theorem getUint_putUint (e : Endian) (k v : Nat) (rest : Bytes) (hv : v < 2 ^ (8 * k)) :
    getUint e (8 * k) (putUint e (8 * k) v ++ rest) = .ok (v, rest) := by
  have hk : 8 * k / 8 = k := Nat.mul_div_cancel_left k (by decide)
  have hl : (putUint e (8 * k) v).length = k := by rw [putUint_length, hk]
  unfold getUint
  simp only [hk, List.length_append, hl]
  rw [if_neg (Nat.not_lt.mpr (Nat.le_add_right ..)), List.take_left' hl, List.drop_left' hl]
  cases e <;> simp [putUint, hk, fromBE, toBE, fromLE_toLE_of_lt k v hv]

theorem getUint_putUint_bits (e : Endian) (w n : Nat) (rest : Bytes) (hw : w % 8 = 0) (hlt : n < 2 ^ w) :
    getUint e w (putUint e w n ++ rest) = .ok (n, rest) := by
  have hk : w = 8 * (w / 8) := (Nat.mul_div_cancel' (Nat.dvd_of_mod_eq_zero hw)).symm
  have := getUint_putUint e (w / 8) n rest (by rw [← hk]; exact hlt)
  rwa [← hk] at this

theorem sumLen_const (k : Nat) (vs : List Value) : sumLen (fun _ => k) vs = vs.length * k := by
  induction vs with
  | nil => simp [sumLen]
  | cons v vs ih => rw [sumLen, ih, List.length_cons, Nat.succ_mul, Nat.add_comm]

theorem listField_ok_iff {v : Value} {id : String} {vs : List Value} :
    listField v id = .ok vs ↔ v.get? id = some (.arr vs) := by
  unfold listField
  split
  · rename_i ws h; simp only [h, Outcome.ok.injEq, Option.some.injEq, Value.arr.injEq]
  · rename_i h; exact ⟨nofun, fun hv => absurd hv (h vs)⟩

theorem natField_ok_iff {v : Value} {id : String} {n : Nat} :
    natField v id = .ok n ↔ v.get? id = some (.int n) := by
  unfold natField
  split
  · rename_i m h; simp only [h, Outcome.ok.injEq, Option.some.injEq, Value.int.injEq]
  · rename_i h; exact ⟨nofun, fun hv => absurd hv (h n)⟩

theorem isPresent_true_iff {v : Value} {id : String} :
    isPresent v id = true ↔ ∃ x, v.get? id = some x ∧ x ≠ .null := by
  cases h : v.get? id with
  | none => simp [isPresent, h]
  | some x => cases x <;> simp [isPresent, h]

theorem isPresent_false_iff {v : Value} {id : String} :
    isPresent v id = false ↔ v.get? id = none ∨ v.get? id = some .null := by
  cases h : v.get? id with
  | none => simp [isPresent, h]
  | some x => cases x <;> simp [isPresent, h]

theorem checkCount_ok_iff {shape : Shape} {n : Nat} {u : Unit} :
    checkCount shape n = .ok u ↔ ∀ k, shape = .static k → n = k := by
  cases shape <;> simp [checkCount]

theorem checkPad_ok_iff {pad : Option Nat} {sz : Nat} {u : Unit} :
    checkPad pad sz = .ok u ↔ ∀ q, pad = some q → sz ≤ q := by
  cases pad <;> simp [checkPad]

theorem padTo_ok_iff {pad : Option Nat} {bs out : Bytes} :
    padTo pad bs = .ok out ↔ (∀ q, pad = some q → bs.length ≤ q) ∧ out = bs ++ zeros (pad.getD 0 - bs.length) := by
  cases pad with
  | none => simp only [padTo, Outcome.ok.injEq, reduceCtorEq, false_imp_iff, implies_true, true_and]; simp [zeros, eq_comm]
  | some q =>
    simp only [padTo, Option.some.injEq, forall_eq', Option.getD_some]
    split
    · rename_i h; simp only [Outcome.ok.injEq, h, true_and]; exact eq_comm
    · rename_i h; simp [h]

theorem padTo_length {pad : Option Nat} {bs out : Bytes} (h : padTo pad bs = .ok out) :
    out.length = pad.getD bs.length := by
  obtain ⟨hle, rfl⟩ := padTo_ok_iff.mp h
  cases pad with
  | none => simp [zeros]
  | some q => have := hle q rfl; simp [zeros]; omega

theorem encListWith_cons_ok_iff {f : Value → Enc Bytes} {x : Value} {xs : List Value} {bs : Bytes} :
    encListWith f (x :: xs) = .ok bs ↔ ∃ a b, f x = .ok a ∧ encListWith f xs = .ok b ∧ bs = a ++ b :=
  bind₂_ok_iff

theorem encListWith_okLe {f g : Value → Enc Bytes} (h : ∀ x, OkLe (f x) (g x)) (vs : List Value) :
    OkLe (encListWith f vs) (encListWith g vs) := by
  induction vs with
  | nil => exact OkLe.rfl
  | cons x xs ih => exact OkLe.bind (h x) fun _ _ => OkLe.bind ih fun _ _ => OkLe.rfl

theorem encListWith_no_panic {f : Value → Enc Bytes} {vs : List Value}
    (h : ∀ x ∈ vs, (f x).isPanic = false) : (encListWith f vs).isPanic = false := by
  induction vs with
  | nil => rfl
  | cons x xs ih =>
    exact isPanic_bind (h x (List.mem_cons_self ..)) fun _ _ =>
      isPanic_bind (ih fun y hy => h y (List.mem_cons_of_mem _ hy)) fun _ _ => rfl

theorem encTy_scalar_ok_iff {c : Cfg} {w : Nat} {v : Value} {bs : Bytes} :
    encTy c (.scalar w) v = .ok bs ↔
      ∃ x, v = .int x ∧ x < 2 ^ backingOf w ∧ elemOutOfRange c.mode w x = false ∧ bs = putUint c.e w x := by
  cases v <;> simp only [encTy, reduceCtorEq, false_and, exists_false, Value.int.injEq, exists_eq_left']
  split
  · rename_i h; simp only [reduceCtorEq, false_iff]; omega
  · rename_i h
    cases elemOutOfRange c.mode w _ <;> simp [Nat.lt_of_not_ge h, eq_comm]

theorem encTy_enumTy_ok_iff {c : Cfg} {nm : String} {en : Enum.Decl} {v : Value} {bs : Bytes} :
    encTy c (.enumTy nm en) v = .ok bs ↔ ∃ x, v = .int x ∧ enumOk en x = true ∧ bs = putUint c.e en.width x := by
  cases v <;> simp only [encTy, reduceCtorEq, false_and, exists_false, Value.int.injEq, exists_eq_left']
  split <;> rename_i h <;> simp [h, eq_comm]

theorem encTy_custom_ok_iff {c : Cfg} {nm : String} {w : Nat} {v : Value} {bs : Bytes} :
    encTy c (.custom nm w) v = .ok bs ↔ ∃ x, v = .int x ∧ x < 2 ^ w ∧ bs = putUint c.e w x := by
  cases v <;> simp only [encTy, reduceCtorEq, false_and, exists_false, Value.int.injEq, exists_eq_left']
  split <;> rename_i h <;> simp [h, eq_comm]

theorem encItem_chunk_ok_iff {c : Cfg} {all : Items} {p : Enc Bytes} {pl : Nat} {v : Value}
    {fs : List BitField} {bs : Bytes} :
    encItem c all p pl v (.chunk fs) = .ok bs ↔
      ∃ X, encChunkFields (c.mode == .ideal) all pl v fs 0 0 = .ok X ∧ bs = putUint c.e (chunkBits fs) X := by
  simp only [encItem, bind_ok_iff, Outcome.ok.injEq]
  exact exists_congr fun X => and_congr_right fun _ => eq_comm

/-- a bit-field group is written as exactly `bits / 8` octets — whatever its fields are -/
theorem encChunk_length (c : Cfg) (all : Items) (p : Enc Bytes) (n : Nat) (v : Value) (fs : List BitField)
    (bs : Bytes) (h : encItem c all p n v (.chunk fs) = .ok bs) :
    bs.length = lenItem (.chunk fs) v := by
  obtain ⟨X, _, rfl⟩ := encItem_chunk_ok_iff.mp h
  rw [putUint_length]; rfl

theorem encItem_typedef_ok_iff {c : Cfg} {all : Items} {p : Enc Bytes} {pl : Nat} {v : Value}
    {id : String} {ty : Ty} {sb : Option Nat} {bs : Bytes} :
    encItem c all p pl v (.typedef id ty sb) = .ok bs ↔ ∃ x, v.get? id = some x ∧ encTy c ty x = .ok bs := by
  simp only [encItem]
  split
  · rename_i x h; simp only [h, Option.some.injEq, exists_eq_left']
  · rename_i h; simp only [h, reduceCtorEq, false_and, exists_false]

theorem encItem_array_ok_iff {c : Cfg} {all : Items} {p : Enc Bytes} {pl : Nat} {v : Value}
    {id : String} {elem : Ty} {ew : ElemWidth} {shape : Shape} {pad : Option Nat} {bs : Bytes} :
    encItem c all p pl v (.array id elem ew shape pad) = .ok bs ↔
      ∃ vs es, v.get? id = some (.arr vs) ∧ (∀ k, shape = .static k → vs.length = k) ∧
        (∀ q, pad = some q → arrSize ew (lenTy elem) vs ≤ q) ∧
        encListWith (encTy c elem) vs = .ok es ∧ padTo pad es = .ok bs := by
  simp only [encItem, bind_ok_iff, listField_ok_iff, checkCount_ok_iff, checkPad_ok_iff]
  exact ⟨fun ⟨vs, h1, _, h2, _, h3, es, h4, h5⟩ => ⟨vs, es, h1, h2, h3, h4, h5⟩,
    fun ⟨vs, es, h1, h2, h3, h4, h5⟩ => ⟨vs, h1, (), h2, (), h3, es, h4, h5⟩⟩

theorem encItem_optional_absent {c : Cfg} {all : Items} {p : Enc Bytes} {pl : Nat} {v : Value}
    {id cid : String} {ty : Ty} {cv : Nat} (h : isPresent v id = false) :
    encItem c all p pl v (.optional id ty cid cv) = .ok [] := by
  rcases isPresent_false_iff.mp h with hg | hg <;> simp only [encItem, hg]

theorem elemOutOfRange_ideal_iff {w x : Nat} : elemOutOfRange .ideal w x = false ↔ ¬ x > maskBits w := by
  simp [elemOutOfRange]

/-- what passes the reference's range check passes the emitted code's (which has none) -/
theorem encTy_scalar_of_ideal {c : Cfg} {w : Nat} {x : Value} {bs : Bytes}
    (h : encTy { e := c.e, mode := .ideal } (.scalar w) x = .ok bs) : encTy c (.scalar w) x = .ok bs := by
  obtain ⟨n, rfl, hb, ho, rfl⟩ := encTy_scalar_ok_iff.mp h
  refine encTy_scalar_ok_iff.mpr ⟨n, rfl, hb, ?_, rfl⟩
  cases hm : c.mode with
  | rust => rfl
  | ideal => exact ho

/-- **a present optional field is written as a value of its type** — except that an optional *scalar* is
    range checked by the emitted code like the reference prescribes, which a scalar array element is not
    (`elemOutOfRange`): in either mode it is written as the reference mode writes a scalar -/
theorem encItem_optional_present {c : Cfg} {all : Items} {p : Enc Bytes} {pl : Nat} {v : Value}
    {id cid : String} {ty : Ty} {cv : Nat} {x : Value} (hx : v.get? id = some x) (hn : x ≠ .null) :
    encItem c all p pl v (.optional id ty cid cv) =
      match ty with
      | .scalar _ => encTy { e := c.e, mode := .ideal } ty x
      | _ => encTy c ty x := by
  cases ty with
  | scalar w =>
    cases x with
    | null => exact absurd rfl hn
    | int n =>
      simp only [encItem, hx, encTy, elemOutOfRange, decide_eq_true_eq]
      split
      · rfl
      · rename_i hb
        -- with a backing type no wider than the field, the value fits already
        have : backingOf w ≤ w → ¬ n > maskBits w := fun hle hgt => by
          have := Nat.pow_le_pow_right (by decide : 2 > 0) hle
          unfold maskBits at hgt; omega
        by_cases hbw : backingOf w > w
        · simp only [hbw, true_and]
        · simp only [hbw, false_and, ↓reduceIte, this (by omega)]
    | arr l => simp only [encItem, hx, encTy]
    | obj l => simp only [encItem, hx, encTy]
  | _ =>
    cases x with
    | null => exact absurd rfl hn
    | _ => simp only [encItem, hx]

theorem encItem_optional_ideal {c : Cfg} {all : Items} {p : Enc Bytes} {pl : Nat} {v : Value}
    {id cid : String} {ty : Ty} {cv : Nat} {x : Value} (hc : c.mode = .ideal) (hx : v.get? id = some x)
    (hn : x ≠ .null) : encItem c all p pl v (.optional id ty cid cv) = encTy c ty x := by
  obtain ⟨e, m⟩ := c
  cases hc
  rw [encItem_optional_present hx hn]
  cases ty <;> rfl

theorem encItem_optional_eq_of_ideal (e : Endian) (all : Items) (p : Enc Bytes) (pl : Nat) (v : Value) (id cid : String) (ty : Ty)
    (cv : Nat) :
    encItem { e := e, mode := .ideal } all p pl v (.optional id ty cid cv) =
      match v.get? id with
      | some .null | none => .ok []
      | some x => encTy { e := e, mode := .ideal } ty x := by
  cases hg : v.get? id with
  | none => exact encItem_optional_absent (by simp [isPresent, hg])
  | some x =>
    cases x with
    | null => exact encItem_optional_absent (by simp [isPresent, hg])
    | _ => exact encItem_optional_ideal rfl hg nofun

theorem encItem_optional_ok {c : Cfg} {all : Items} {p : Enc Bytes} {pl : Nat} {v : Value}
    {id cid : String} {ty : Ty} {cv : Nat} {bs : Bytes} (h : encItem c all p pl v (.optional id ty cid cv) = .ok bs) :
    (isPresent v id = false ∧ bs = []) ∨ ∃ x, v.get? id = some x ∧ x ≠ .null ∧ encTy c ty x = .ok bs := by
  cases hp : isPresent v id with
  | false => rw [encItem_optional_absent hp] at h; exact Or.inl ⟨rfl, by simpa using h.symm⟩
  | true =>
    obtain ⟨x, hx, hn⟩ := isPresent_true_iff.mp hp
    rw [encItem_optional_present hx hn] at h
    refine Or.inr ⟨x, hx, hn, ?_⟩
    cases ty with
    | scalar w => exact encTy_scalar_of_ideal h
    | _ => exact h

theorem lenItem_optional_absent {v : Value} {id ci : String} {ty : Ty} {cv : Nat} (h : isPresent v id = false) :
    lenItem (.optional id ty ci cv) v = 0 := by
  rcases isPresent_false_iff.mp h with hg | hg <;> simp only [lenItem, hg]

theorem lenItem_optional_present {v : Value} {id ci : String} {ty : Ty} {cv : Nat} {x : Value}
    (hx : v.get? id = some x) (hn : x ≠ .null) : lenItem (.optional id ty ci cv) v = lenTy ty x := by
  cases x with
  | null => exact absurd rfl hn
  | _ => simp only [lenItem, hx]

theorem lenItem_array {v : Value} {id : String} {elem : Ty} {ew : ElemWidth} {sh : Shape} {pad : Option Nat}
    {vs : List Value} (h : v.get? id = some (.arr vs)) :
    lenItem (.array id elem ew sh pad) v = pad.getD (arrSize ew (lenTy elem) vs) := by
  cases pad <;> simp only [lenItem, h, arrSize, Option.bind_some, Value.asList?, Option.getD_some, Option.getD_none]

theorem encItems_cons_ok_iff {c : Cfg} {all : Items} {p : Enc Bytes} {pl : Nat} {v : Value}
    {i : Item} {r : Items} {bs : Bytes} :
    encItems c all p pl v (.cons i r) = .ok bs ↔
      ∃ a b, encItem c all p pl v i = .ok a ∧ encItems c all p pl v r = .ok b ∧ bs = a ++ b :=
  bind₂_ok_iff

theorem encBody_root_ok_iff {c : Cfg} {nm : String} {items : Items} {v : Value} {bs : Bytes} :
    encBody c (.root nm items) v = .ok bs ↔
      ∃ p, (if items.hasPayload then (v.get? "payload").bind valBytes else some []) = some p ∧
        encItems c items (.ok p) p.length v items = .ok bs := by
  simp only [encBody]
  split
  · rename_i h; simp only [h, reduceCtorEq, false_and, exists_false]
  · rename_i p h; simp only [h, Option.some.injEq, exists_eq_left']

theorem encBody_derived_ok_iff {c : Cfg} {nm : String} {parent : Body} {cs allCs : List (String × Nat)}
    {items : Items} {v : Value} {bs : Bytes} :
    encBody c (.derived nm parent cs allCs items) v = .ok bs ↔
      ∃ p, (if items.hasPayload then (v.get? "payload").bind valBytes else some []) = some p ∧
        encAround c parent (withConstants allCs v) (encItems c items (.ok p) p.length (withConstants allCs v) items)
          (lenItems items (withConstants allCs v)) = .ok bs := by
  simp only [encBody, withConstants]
  split
  · rename_i h; simp only [h, reduceCtorEq, false_and, exists_false]
  · rename_i p h; simp only [h, Option.some.injEq, exists_eq_left']

theorem encListWith_length_const {f : Value → Enc Bytes} {w : Nat} (hf : ∀ x b, f x = .ok b → b.length = w)
    {vs : List Value} {es : Bytes} (h : encListWith f vs = .ok es) : es.length = vs.length * w := by
  rw [encListWith_length f (fun _ => w) hf vs es h, sumLen_const]

/-- the emitted `array_size` expression is the length of what the element loop writes -/
theorem encListWith_arrSize {f : Value → Enc Bytes} {g : Value → Nat} {ew : ElemWidth} {vs : List Value} {es : Bytes}
    (hst : ∀ w, ew = .static w → ∀ x b, f x = .ok b → b.length = w) (hg : ∀ x b, f x = .ok b → b.length = g x)
    (h : encListWith f vs = .ok es) : es.length = arrSize ew g vs := by
  cases ew with
  | static w => exact encListWith_length_const (hst w rfl) h
  | _ => exact encListWith_length f g hg vs es h

/-- the value an inheriting packet is serialized from has the value's own fields first, then the constants -/
theorem withConstants_get_eq (allCs : List (String × Nat)) (v : Value) (k : String) :
    (withConstants allCs v).get? k = (v.get? k).or ((allCs.lookup k).map Value.int) := by
  simp only [withConstants, Value.get?, Value.fields]
  rw [List.lookup_append, List.lookup_map_snd]

theorem withConstants_get_own (allCs : List (String × Nat)) (v : Value) (k : String) (x : Value)
    (h : v.get? k = some x) : (withConstants allCs v).get? k = some x := by
  rw [withConstants_get_eq, h]; rfl

end Pdlv
