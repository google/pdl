/-
  Pdlv.Lemmas.CxxView — the model of the view parser the C++ back end emits, with its getters
  (`Pdlv.Cxx.viewDecode`), refines the reference `decode_full` on the layouts `Cxx.vwfBody`: a view is
  valid exactly when the reference accepts the octets, the getters then return the reference's field values,
  and no slice accessor is called beyond its slice — neither by the parser nor by a getter.

  On that class (arrays of scalars only) the view parser with its getters is the struct parser, with an
  untouched hazard slot beside its state (`viewItems_as_struct`): `parse_array_field_lite` makes the checks of
  `parse_array_field_full` and keeps the octets of the `k` elements these settle on (`staticCount`), and every
  getter loop over a slice of exactly `k` scalars returns them (`getter_scalar`).
-/
import Pdlv.Lemmas.CxxAgree

namespace Pdlv
namespace Cxx

open Py (ideal)
open Outcome

theorem lenientRaw_vals (e : Endian) (w' : Nat) (hw : 0 < w' / 8) :
    ∀ (k fuel : Nat) (limit : Option Nat) (bs : Bytes), k < fuel → k * (w' / 8) ≤ bs.length →
      (limit = some k ∨ (limit = none ∧ bs.length = k * (w' / 8))) →
      lenientRaw e w' fuel limit bs = .ok (vals e w' k bs) := by
  -- `d` for the element size: the arithmetic below is linear in it
  generalize hd : w' / 8 = d at hw
  intro k fuel
  induction fuel generalizing k with
  | zero => intro _ _ hf; omega
  | succ fuel ih =>
    intro limit bs hf h hl
    cases k with
    | zero =>
      rcases hl with rfl | ⟨rfl, hl⟩
      · simp [lenientRaw, vals]
      · simp [lenientRaw, vals, hd, show bs.length < d by omega]
    | succ k =>
      rw [Nat.succ_mul] at h hl
      have hld : (bs.drop d).length = bs.length - d := List.length_drop
      have hle : d ≤ bs.length := by omega
      have hdl : (bs.drop d).length < bs.length := by omega
      have ih' := ih k (limit.map (· - 1)) (bs.drop d) (Nat.lt_of_succ_lt_succ hf) (by omega)
        (by rcases hl with rfl | ⟨rfl, hl⟩
            · exact Or.inl rfl
            · exact Or.inr ⟨rfl, by omega⟩)
      have h0 : (limit == some 0) = false := by rcases hl with rfl | ⟨rfl, _⟩ <;> simp
      simp only [lenientRaw, h0, Bool.false_eq_true, ↓reduceIte, hd, Nat.not_lt.mpr hle, getUint_of_le (e := e) (hd ▸ hle), ok_bind, hdl, ih', vals]

theorem lenientRaw_some (e : Endian) (w' : Nat) (hw : 0 < w' / 8) :
    ∀ (n fuel : Nat) (bs : Bytes), n * (w' / 8) ≤ bs.length → n < fuel →
      lenientRaw e w' fuel (some n) bs = .ok (vals e w' n bs) :=
  fun n fuel bs h hf => lenientRaw_vals e w' hw n fuel (some n) bs hf h (Or.inl rfl)

theorem lenientRaw_none (e : Endian) (w' : Nat) (hw : 0 < w' / 8) :
    ∀ (k fuel : Nat) (bs : Bytes), bs.length = k * (w' / 8) → k < fuel →
      lenientRaw e w' fuel none bs = .ok (vals e w' k bs) :=
  fun k fuel bs h hf => lenientRaw_vals e w' hw k fuel none bs hf (by omega) (Or.inr ⟨rfl, h⟩)

/-- the element count the checks of a statically sized array case settle on, `parse_array_field_full` and `_lite` alike -/
def staticCount (w : Nat) (shape : Shape) (cw cnt siz : Option Nat) (len : Nat) : Dec Nat :=
  match shape with
  | .static n => if len < n * w then .err .length else .ok n
  | .countField =>
    match cnt, cw with
    | some n, some cw => (mulCount cw w n).bind fun tot => if len < tot then .err .length else .ok n
    | _, _ => .panic .badLayout
  | .sizeField =>
    match siz with
    | none => .panic .badLayout
    | some sz =>
      if len < sz then .err .length else if w = 0 then .panic .remZero else if sz % w ≠ 0 then .err .arraySize else .ok (sz / w)
  | .unknown => if w = 0 then .panic .remZero else if len % w ≠ 0 then .err .arraySize else .ok (len / w)

theorem arrayFull_static (el : Bytes → Dec (Value × Bytes)) (w : Nat) (shape : Shape) (cw cnt siz : Option Nat) (sp : Bytes) :
    arrayFull el (.static w) shape cw cnt siz sp = (staticCount w shape cw cnt siz sp.length).bind fun k => decRepeat el k sp := by
  cases shape with
  | static n => simp only [arrayFull, staticCount, ite_bind, err_bind, ok_bind]
  | countField =>
    simp only [arrayFull, staticCount]
    cases cnt <;> cases cw <;> simp only [panic_bind, bind_bind, ite_bind, err_bind, ok_bind]
  | sizeField =>
    simp only [arrayFull, staticCount]
    cases siz <;> simp only [panic_bind, ite_bind, err_bind, ok_bind]
  | unknown => simp only [arrayFull, staticCount, ite_bind, err_bind, ok_bind, panic_bind]

theorem staticCount_ok {w : Nat} {shape : Shape} {cw cnt siz : Option Nat} {len k : Nat} (hpos : 0 < w)
    (hcw : shape = .countField → ∃ cc, cw = some cc ∧ cc ≤ 16 ∧ w * 65535 < 2 ^ 31)
    (h : staticCount w shape cw cnt siz len = .ok k) :
    k * w ≤ len ∧ (∀ n, shape = .static n → k = n) ∧ (shape = .countField → cnt = some k) := by
  cases shape with
  | static n =>
    simp only [staticCount] at h
    split at h <;> cases h
    exact ⟨Nat.not_lt.mp ‹_›, fun _ e => by cases e; rfl, nofun⟩
  | countField =>
    obtain ⟨cc, rfl, hc16, hw⟩ := hcw rfl
    cases cnt with
    | none => cases h
    | some n =>
      simp only [staticCount, mulCount, hc16, hw, ↓reduceIte, ok_bind] at h
      split at h <;> cases h
      exact ⟨by rw [Nat.mul_comm]; omega, nofun, fun _ => rfl⟩
  | sizeField =>
    cases siz with
    | none => cases h
    | some sz =>
      simp only [staticCount, if_neg (Nat.ne_of_gt hpos)] at h
      split at h
      · cases h
      · rename_i hl
        split at h <;> cases h
        exact ⟨Nat.le_trans (Nat.div_mul_le_self sz w) (Nat.not_lt.mp hl), nofun, nofun⟩
  | unknown =>
    simp only [staticCount, if_neg (Nat.ne_of_gt hpos)] at h
    split at h <;> cases h
    exact ⟨Nat.div_mul_le_self len w, nofun, nofun⟩

theorem arrayLite_static (c : Cfg) (elem : Ty) {w : Nat} {shape : Shape} {cw cnt siz : Option Nat} (sp : Bytes) (hpos : 0 < w)
    (hcw : shape = .countField → ∃ cc, cw = some cc ∧ cc ≤ 16 ∧ w * 65535 < 2 ^ 31) :
    arrayLite c elem (.static w) shape cw cnt siz sp =
      (staticCount w shape cw cnt siz sp.length).bind fun k => .ok (sp.take (k * w), sp.drop (k * w)) := by
  have hw0 : ¬ w = 0 := Nat.ne_of_gt hpos
  cases shape with
  | static n => simp only [arrayLite, staticCount, ite_bind, err_bind, ok_bind]
  | countField =>
    obtain ⟨cc, rfl, hc16, hw⟩ := hcw rfl
    cases cnt with
    | none => rfl
    | some n => simp only [arrayLite, staticCount, mulCount, hc16, hw, ↓reduceIte, ok_bind, ite_bind, err_bind, Nat.mul_comm w n]
  | sizeField =>
    cases siz with
    | none => rfl
    | some sz =>
      simp only [arrayLite, staticCount, hw0, ↓reduceIte, ite_bind, err_bind, ok_bind]
      by_cases hm : sz % w = 0
      · simp only [hm, ne_eq, not_true_eq_false, ↓reduceIte, Nat.div_mul_cancel (Nat.dvd_of_mod_eq_zero hm)]
      · simp only [hm, ne_eq, not_false_eq_true, ↓reduceIte]
  | unknown =>
    simp only [arrayLite, staticCount, hw0, ↓reduceIte, ite_bind, err_bind, ok_bind]
    by_cases hm : sp.length % w = 0
    · simp only [hm, ne_eq, not_true_eq_false, ↓reduceIte, Nat.div_mul_cancel (Nat.dvd_of_mod_eq_zero hm), List.take_length,
        List.drop_length]
    · simp only [hm, ne_eq, not_false_eq_true, ↓reduceIte]

theorem getter_scalar (c : Cfg) (w' : Nat) (hpos : 0 < w' / 8) (shape : Shape) (cnt : Option Nat) (k : Nat) (s : Bytes)
    (hs : s.length = k * (w' / 8)) (hst : ∀ n, shape = .static n → k = n) (hc : shape = .countField → cnt = some k) :
    getter c (.scalar w') shape cnt s = .ok (vals c.e w' k s) := by
  have hk : k < s.length + 1 := by have := Nat.le_mul_of_pos_right k hpos; omega
  cases shape with
  | static n =>
    obtain rfl := hst n rfl
    have : (fun bs => (rawRead c.e w' bs).bind fun x => Outcome.ok (Value.int x.1, x.2)) = scalarEl c.e w' :=
      decElem_scalar c w'
    simp only [getter, this, decRepeat_vals c.e w' k s (Nat.le_of_eq hs.symm), ok_bind]
  | countField => simp only [getter, hc rfl]; exact lenientRaw_some c.e w' hpos k _ s (Nat.le_of_eq hs.symm) hk
  | sizeField | unknown => exact lenientRaw_none c.e w' hpos k _ s hs hk

theorem viewItem_array_eq (c : Cfg) (all rest : Items) (id : String) (w' : Nat) (shape : Shape) (pad : Option Nat) (bs : Bytes)
    (st : DState) (hz : Option Hazard) (hpos : 0 < w' / 8)
    (hcw : shape = .countField → ∃ cc, countWidth id all = some cc ∧ cc ≤ 16 ∧ w' / 8 * 65535 < 2 ^ 31) :
    viewItem c all rest (.array id (.scalar w') (.static (w' / 8)) shape pad) bs (st, hz) =
      (Cxx.decItem c all rest (.array id (.scalar w') (.static (w' / 8)) shape pad) bs st).bind fun (st', r) => .ok ((st', hz), r) := by
  simp only [viewItem, Cxx.decItem, decElem_scalar, arrayLite_static c _ bs hpos hcw, arrayFull_static, bind_bind]
  cases hk : staticCount (w' / 8) shape (countWidth id all) (st.ctx.get (.count id)) (subModifier all id (st.ctx.get (.size id))) bs.length with
  | err e => rfl
  | panic z => rfl
  | ok k =>
    obtain ⟨hle, hst, hc⟩ := staticCount_ok hpos hcw hk
    simp only [ok_bind, decRepeat_vals c.e w' k bs hle,
      getter_scalar c w' hpos shape _ k (bs.take (k * (w' / 8))) (by rw [List.length_take]; omega) hst hc,
      vals_take c.e w' k bs _ (Nat.le_refl _)]

theorem viewItem_as_struct (all rest : Items) : ∀ (i : Item), vwfItem all rest i = true →
    wfItem all rest i = true ∧ ∀ (c : Cfg) (bs : Bytes) (st : DState) (hz : Option Hazard),
      viewItem c all rest i bs (st, hz) = (Cxx.decItem c all rest i bs st).bind fun (st', r) => .ok ((st', hz), r)
  | .chunk _, hw | .typedef .., hw | .optional .., hw | .payload _, hw => ⟨hw, fun _ _ _ _ => rfl⟩
  | .array id elem ew shape pad, hw => by
    simp only [vwfItem, Bool.and_eq_true, bne_iff_ne, ne_eq] at hw
    obtain ⟨⟨hpad, hidp⟩, hel⟩ := hw
    cases elem with
    | scalar w' =>
      cases ew with
      | static w =>
        simp only [Bool.and_eq_true, beq_iff_eq, decide_eq_true_eq] at hel
        obtain ⟨⟨rfl, hpos⟩, hcnt⟩ := hel
        refine ⟨?_, fun c bs st hz => viewItem_array_eq c all rest id w' shape pad bs st hz hpos fun hs => ?_⟩
        · simp [wfItem, hpad, wfTy, staticTy, localWfTy, hcnt, hidp]
        · subst hs; exact countOk_spec hcnt
      | _ => simp at hel
    | _ => simp at hel

theorem vwfItems_wfItems {all is : Items} (hw : vwfItems all is = true) : wfItems all is = true := by
  induction is using Items.induction with
  | nil => rfl
  | cons i r ih =>
    simp only [vwfItems, Bool.and_eq_true] at hw
    exact (Bool.and_eq_true _ _).mpr ⟨(viewItem_as_struct all r i hw.1).1, ih hw.2⟩

theorem viewItems_as_struct (c : Cfg) (all is : Items) (hw : vwfItems all is = true) (inRun : Bool) (bs : Bytes) (st : DState)
    (hz : Option Hazard) :
    viewItems c all is inRun bs (st, hz) = (Cxx.decItems c all is inRun bs st).bind fun (st', r) => .ok ((st', hz), r) := by
  induction is using Items.induction generalizing inRun bs st hz with
  | nil => rfl
  | cons i r hr =>
    simp only [vwfItems, Bool.and_eq_true] at hw
    cases hrl : runLen i <;>
      simp only [viewItems, Cxx.decItems, hrl, (viewItem_as_struct all r i hw.1).2 c, hr hw.2, bind_bind, ok_bind, ite_bind, err_bind]

/-- the view tests for octets left over as `!r.isEmpty`, the reference and `whole_ok_iff` as `r.isEmpty` -/
theorem ite_not_isEmpty {α β : Type} (r : List α) (x y : β) : (if !r.isEmpty then x else y) = if r.isEmpty then y else x := by
  cases r.isEmpty <;> rfl

/-- same acceptance and state with no deferred getter hazard; a hazard only where the reference stops too -/
def RefV (p : Dec ((DState × Option Hazard) × Bytes)) (q : Dec (DState × Bytes)) : Prop :=
  (∀ st r, p = .ok ((st, none), r) ↔ q = .ok (st, r)) ∧ (∀ st h r, p ≠ .ok ((st, some h), r)) ∧
  (∀ h, p = .panic h → ∃ h', q = .panic h')

theorem slot_ok_iff {q : Dec (DState × Bytes)} {st : DState} {z : Option Hazard} {r : Bytes} :
    (q.bind fun (st, r) => .ok ((st, (none : Option Hazard)), r)) = .ok ((st, z), r) ↔ z = none ∧ q = .ok (st, r) := by
  cases q with
  | ok a => simp only [Outcome.ok_bind, Outcome.ok.injEq, Prod.ext_iff]; constructor <;> (intro h; simp only [h, and_self])
  | err e => simp
  | panic z => simp

theorem slot_panic_iff {q : Dec (DState × Bytes)} {h : Hazard} :
    (q.bind fun (st, r) => (.ok ((st, (none : Option Hazard)), r) : Dec _)) = .panic h ↔ q = .panic h := by
  cases q <;> simp

theorem refv_ite (p : Prop) [Decidable p] (e1 e2 : DecErr) (s : DState) (r : Bytes) :
    RefV (if p then .err e1 else .ok ((s, none), r)) (if p then .err e2 else .ok (s, r)) := by
  split
  · exact ⟨fun _ _ => by simp, nofun, nofun⟩
  · exact ⟨fun st r' => by simp, fun st hz r' hh => by simp at hh, fun hz hh => (by cases hh)⟩

theorem items_refv (c : Cfg) (all : Items) (hall : ModFree all) : ∀ (is : Items), vwfItems all is = true → ∀ (inRun : Bool) (bs : Bytes) (st : DState),
    bs.length < usizeMax → RefV (viewItems c all is inRun bs (st, none)) (Pdlv.decItems (ideal c) is bs st) := fun is hw inRun bs st hb => by
  have h := items_ref c all hall is (vwfItems_wfItems hw) inRun bs st hb
  rw [viewItems_as_struct c all is hw]
  refine ⟨fun st' r => by rw [slot_ok_iff, h.1]; simp, fun st' z r hp => ?_, fun z hp => h.2 z (slot_panic_iff.mp hp)⟩
  cases (slot_ok_iff.mp hp).1

theorem view_refines_reference (c : Cfg) (nm : String) (items : Items) (hw : vwfBody (.root nm items) = true)
    (bs : Bytes) (hb : bs.length < usizeMax) :
    Refines (viewDecode c (.root nm items) bs) (Pdlv.decodeFull (ideal c) (.root nm items) bs) := by
  have hwf := vwfItems_wfItems (all := items) hw
  simp only [viewDecode, Pdlv.decodeFull, Pdlv.decBody_root, viewItems_as_struct c items items hw, bind_bind, ok_bind, ite_not_isEmpty]
  exact Refines.bind (items_ref c items (sizeField_wf items · items hwf) items hwf false bs DState.empty hb) fun x _ => Refines.rfl

end Cxx
end Pdlv
