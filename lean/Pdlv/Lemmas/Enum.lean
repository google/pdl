/-
  Pdlv.Lemmas.Enum — what the enum conversions of all back ends turn on: `Covered` / `TopCovered` (the value is a
  named tag's or lies in a range; with top-level tags only), with `spec`, `cxxIsValid`, `pyFromInt` and
  `enum_is_complete` characterised through them; first-match evaluation of the Rust arm table (`tagArms_eval`,
  under `NoLateShadow`); `NestedInside`, under which the two notions of coverage agree; `EnumWF`, what the analyzer
  guarantees of an accepted enum.
-/
import Pdlv.Enum

namespace Pdlv
namespace Enum

theorem scalarMax_eq (w : Nat) (h : w ≤ 64) : scalarMax w = 2 ^ w - 1 := by
  unfold scalarMax
  split
  · rename_i h64; rw [Nat.le_antisymm h h64]
  · rfl

theorem evalArms_append (as bs : Arms) (x : Nat) :
    evalArms (as ++ bs) x = (evalArms as x).orElse (fun _ => evalArms bs x) := by
  induction as with
  | nil => simp [evalArms, Option.orElse]
  | cons a as ih =>
    obtain ⟨p, r⟩ := a
    simp only [List.cons_append, evalArms]
    split
    · simp [Option.orElse]
    · exact ih

theorem litArms_eval (ts : List TagV) (x : Nat) :
    evalArms (litArms ts) x = (ts.find? (·.value == x)).map (fun t => Res.named t.id) := by
  induction ts with
  | nil => simp [litArms, evalArms]
  | cons t ts ih =>
    simp only [litArms, List.map, evalArms, Pat.matches, List.find?] at *
    by_cases h : t.value == x
    · simp [h, Rhs.eval]
    · simp [h, ih]

/-- "named first, then range" on a tag list, without the default / error fallbacks -/
def specTags (tags : List Tag) (x : Nat) : Option Res :=
  match (namedTags tags).find? (·.value == x) with
  | some t => some (.named t.id)
  | none =>
    match (ranges tags).find? (inRng · x) with
    | some r => some (.inRange r.1 x)
    | none => none

/-- `x` is the value of a named tag (nested ones included) or lies in a declared range: what every back end's
    conversion and the specification agree to accept without a default tag -/
def Covered (tags : List Tag) (x : Nat) : Prop :=
  (∃ t ∈ namedTags tags, t.value = x) ∨ ∃ r ∈ ranges tags, inRng r x = true

/-- the same with top-level value tags only: what `IsValidE` (C++), `from_int` (Python) and
    `enum_is_complete` (Rust) look at -/
def TopCovered (tags : List Tag) (x : Nat) : Prop :=
  (∃ t ∈ topTags tags, t.value = x) ∨ ∃ r ∈ ranges tags, inRng r x = true

theorem specTags_eq_none_iff (tags : List Tag) (x : Nat) : specTags tags x = none ↔ ¬ Covered tags x := by
  unfold specTags Covered
  cases hf : (namedTags tags).find? (·.value == x) with
  | some t =>
    simp only [reduceCtorEq, false_iff, Classical.not_not]
    exact Or.inl ⟨t, List.mem_of_find?_eq_some hf, by simpa using List.find?_some hf⟩
  | none =>
    cases hg : (ranges tags).find? (inRng · x) with
    | some r =>
      simp only [reduceCtorEq, false_iff, Classical.not_not]
      exact Or.inr ⟨r, List.mem_of_find?_eq_some hg, List.find?_some (p := (inRng · x)) hg⟩
    | none =>
      simp only [true_iff]
      rintro (⟨t, ht, hv⟩ | ⟨r, hr, hv⟩)
      · exact List.find?_eq_none.mp hf t ht (by simp [hv])
      · exact List.find?_eq_none.mp hg r hr hv

theorem specTags_ne_err (tags : List Tag) (x : Nat) : specTags tags x ≠ some .err := by
  unfold specTags
  split
  · nofun
  · split <;> nofun

theorem spec_eq (e : Decl) (x : Nat) : spec e x = if 2 ^ e.width ≤ x then .err else
    (specTags e.tags x).getD (match otherTag e.tags with | some o => .dflt o x | none => .err) := by
  unfold spec specTags
  split
  · rfl
  · cases (namedTags e.tags).find? (·.value == x) with
    | some t => rfl
    | none => cases (ranges e.tags).find? (inRng · x) <;> rfl

/-- below `2^width` the specification accepts exactly the covered values, and everything when there is a default tag -/
theorem spec_ne_err_iff (e : Decl) (x : Nat) (hx : x < 2 ^ e.width) :
    spec e x ≠ .err ↔ Covered e.tags x ∨ (otherTag e.tags).isSome = true := by
  rw [spec_eq, if_neg (Nat.not_le.mpr hx)]
  cases hst : specTags e.tags x with
  | some r =>
    have hcov : Covered e.tags x :=
      Classical.byContradiction fun h => by simp [(specTags_eq_none_iff _ _).mpr h] at hst
    simpa [hcov] using fun h => specTags_ne_err e.tags x (hst.trans (congrArg some h))
  | none => cases otherTag e.tags <;> simp [(specTags_eq_none_iff _ _).mp hst]

/-- The only ordering hazard of a first-match `match`: a range arm placed *before* a
    named tag whose value lies in that range. -/
def NoLateShadow : List Tag → Prop
  | [] => True
  | .value _ :: ts => NoLateShadow ts
  | .range _ lo hi _ _ :: ts =>
      (∀ t ∈ namedTags ts, ¬ (lo ≤ t.value ∧ t.value ≤ hi)) ∧ NoLateShadow ts
  | .other _ _ :: ts => NoLateShadow ts

/-- What `check_enum_declarations` (analyzer.rs) guarantees of an accepted enum, stated
    declaratively: E12 (ids), E13 / E14 (tag values within the width), E40 / E41 (ranges), E43 (value tags
    outside ranges).  That a nested tag lies inside its own range (E14 for nested tags) is NOT in it: that is
    the separate `NestedInside`, which only the C++ and Python theorems need. -/
structure EnumWF (e : Decl) : Prop where
  width_le : e.width ≤ 64
  named_lt : ∀ t ∈ namedTags e.tags, t.value < 2 ^ e.width
  range_ok : ∀ r ∈ ranges e.tags, r.2.1 ≤ r.2.2 ∧ r.2.2 < 2 ^ e.width
  no_shadow : NoLateShadow e.tags
  ids_nodup : ((namedTags e.tags).map (·.id)).Nodup

/-- nothing at or above `2^width` is covered: E13 / E14 / E40 bound all tag values and range ends -/
theorem EnumWF.not_covered {e : Decl} (hwf : EnumWF e) {x : Nat} (hx : 2 ^ e.width ≤ x) : ¬ Covered e.tags x := by
  rintro (⟨t, ht, hv⟩ | ⟨r, hr, hv⟩)
  · exact Nat.lt_irrefl _ (Nat.lt_of_lt_of_le (hv ▸ hwf.named_lt t ht) hx)
  · simp only [inRng, Bool.and_eq_true, decide_eq_true_eq] at hv
    exact Nat.lt_irrefl _ (Nat.lt_of_le_of_lt hv.2 (Nat.lt_of_lt_of_le (hwf.range_ok r hr).2 hx))

theorem tagArms_eval (tags : List Tag) (h : NoLateShadow tags) (x : Nat) :
    evalArms (tagArms tags) x = specTags tags x := by
  induction tags with
  | nil => simp [tagArms, evalArms, specTags, namedTags, ranges]
  | cons tg ts ih =>
    cases tg with
    | value t =>
      simp only [tagArms, evalArms, Pat.matches, NoLateShadow] at *
      by_cases hx : t.value == x
      · simp [hx, Rhs.eval, specTags, namedTags]
      · simp only [hx, Bool.false_eq_true, ↓reduceIte, ih h]
        simp [specTags, namedTags, ranges, hx]
    | other id l =>
      simp only [tagArms, NoLateShadow] at *
      rw [ih h]; simp [specTags, namedTags, ranges]
    | range id lo hi sub l =>
      -- the arms try the nested tags of this range, then the range, then what follows; `specTags` tries every named
      -- tag before any range.  They differ only if a later named tag has its value in this range: `hsh` excludes it
      simp only [tagArms, NoLateShadow] at *
      obtain ⟨hsh, hrest⟩ := h
      rw [evalArms_append, litArms_eval]
      cases hsub : sub.find? (·.value == x) with
      | some t =>
        simp [specTags, namedTags, List.find?_append, hsub, Option.orElse]
      | none =>
        simp only [Option.map_none, Option.orElse, evalArms, Pat.matches]
        by_cases hin : (decide (lo ≤ x) && decide (x ≤ hi)) = true
        · simp only [hin, ↓reduceIte, Rhs.eval]
          have hnone : (namedTags ts).find? (·.value == x) = none := by
            rw [List.find?_eq_none]
            intro t ht hv
            have : t.value = x := by simpa using hv
            apply hsh t ht
            subst this
            simpa using hin
          simp [specTags, namedTags, List.find?_append, hsub, hnone, ranges, inRng, hin]
        · simp only [hin, Bool.false_eq_true, ↓reduceIte, ih hrest]
          simp [specTags, namedTags, List.find?_append, hsub, ranges, inRng, hin]

theorem chain_covers : ∀ (s : List (Nat × Nat)) (a : Nat × Nat) (l : Nat × Nat),
    chainOk (a :: s) = some true → (a :: s).getLast? = some l →
    ∀ x, a.1 ≤ x → x ≤ l.2 → ∃ iv ∈ a :: s, iv.1 ≤ x ∧ x ≤ iv.2 := by
  intro s
  induction s with
  | nil =>
    intro a l _ hl x h1 h2
    simp at hl; subst hl
    exact ⟨a, by simp, h1, h2⟩
  | cons b rest ih =>
    intro a l hc hl x h1 h2
    simp only [chainOk] at hc
    split at hc
    · cases hc
    · rename_i hb0
      split at hc
      · rename_i hab
        have hab' : a.2 = b.1 - 1 := by simpa using hab
        by_cases hxa : x ≤ a.2
        · exact ⟨a, by simp, h1, hxa⟩
        · have hl' : (b :: rest).getLast? = some l := by
            simpa [List.getLast?_cons_cons] using hl
          obtain ⟨iv, hiv, h⟩ := ih b l hc hl' x (Nat.le_of_pred_lt (show b.1 - 1 < x from hab' ▸ Nat.not_le.mp hxa)) h2
          exact ⟨iv, List.mem_cons_of_mem _ hiv, h⟩
      · cases hc

theorem insertPair_perm (a : Nat × Nat) (l : List (Nat × Nat)) : (insertPair a l).Perm (a :: l) := by
  induction l with
  | nil => simp [insertPair]
  | cons b l ih =>
    simp only [insertPair]
    split
    · exact List.Perm.refl _
    · exact (List.Perm.cons b ih).trans (List.Perm.swap a b l)

theorem sortPairs_perm (l : List (Nat × Nat)) : (sortPairs l).Perm l := by
  induction l with
  | nil => simp [sortPairs]
  | cons a l ih =>
    simp only [sortPairs]
    exact (insertPair_perm a _).trans (List.Perm.cons a ih)

theorem intervals_mem (tags : List Tag) (iv : Nat × Nat) (h : iv ∈ intervals tags) :
    (∃ t ∈ topTags tags, t.value = iv.1 ∧ t.value = iv.2) ∨
    (∃ r ∈ ranges tags, r.2.1 = iv.1 ∧ r.2.2 = iv.2) := by
  induction tags with
  | nil => simp [intervals] at h
  | cons tg ts ih =>
    cases tg with
    | value t =>
      simp only [intervals, List.mem_cons] at h
      rcases h with h | h
      · left; exact ⟨t, by simp [topTags], by simp [h]⟩
      · rcases ih h with ⟨t', ht', h'⟩ | ⟨r, hr, h'⟩
        · left; exact ⟨t', by simp [topTags, ht'], h'⟩
        · right; exact ⟨r, by simpa [ranges] using hr, h'⟩
    | other id l =>
      simp only [intervals] at h
      rcases ih h with ⟨t', ht', h'⟩ | ⟨r, hr, h'⟩
      · left; exact ⟨t', by simpa [topTags] using ht', h'⟩
      · right; exact ⟨r, by simpa [ranges] using hr, h'⟩
    | range id lo hi sub l =>
      simp only [intervals, List.mem_cons] at h
      rcases h with h | h
      · right; exact ⟨(id, lo, hi), by simp [ranges], by simp [h]⟩
      · rcases ih h with ⟨t', ht', h'⟩ | ⟨r, hr, h'⟩
        · left; exact ⟨t', by simpa [topTags] using ht', h'⟩
        · right; exact ⟨r, by simp [ranges, hr], h'⟩

theorem topTags_sub_named (tags : List Tag) : ∀ t ∈ topTags tags, t ∈ namedTags tags := by
  induction tags with
  | nil => simp [topTags]
  | cons tg ts ih =>
    cases tg with
    | value t => intro t' h; simp only [topTags, namedTags, List.mem_cons] at *; rcases h with h | h
                 · exact Or.inl h
                 · exact Or.inr (ih _ h)
    | other id l => intro t' h; simp only [topTags, namedTags] at *; exact ih _ h
    | range id lo hi sub l =>
      intro t' h; simp only [topTags, namedTags, List.mem_append] at *; exact Or.inr (ih _ h)

/-- What `enum_is_complete` returning `true` buys: every x ≤ max is a top-level tag value
    or lies in a range. -/
theorem complete_covers (tags : List Tag) (max : Nat) (h : isComplete? tags max = some true)
    (x : Nat) (hx : x ≤ max) : TopCovered tags x := by
  unfold isComplete? at h
  simp only at h
  generalize hs : sortPairs (intervals tags) = s at h
  have hperm : s.Perm (intervals tags) := by rw [← hs]; exact sortPairs_perm _
  cases s with
  | nil => simp at h
  | cons a rest =>
    cases hl : (a :: rest).getLast? with
    | none => simp at hl
    | some l =>
      simp only [List.head?_cons, hl] at h
      split at h
      · rename_i hfl
        simp only [Bool.and_eq_true, beq_iff_eq] at hfl
        obtain ⟨iv, hiv, h1, h2⟩ := chain_covers rest a l h hl x (hfl.1 ▸ Nat.zero_le x) (hfl.2 ▸ hx)
        have hmem : iv ∈ intervals tags := hperm.mem_iff.mp hiv
        rcases intervals_mem tags iv hmem with ⟨t, ht, e1, e2⟩ | ⟨r, hr, e1, e2⟩
        · left; exact ⟨t, ht, Nat.le_antisymm (e1 ▸ h1) (e2 ▸ h2)⟩
        · right; refine ⟨r, hr, ?_⟩
          simp only [inRng, Bool.and_eq_true, decide_eq_true_eq]
          exact ⟨e1 ▸ h1, e2 ▸ h2⟩
      · cases h

/-- nested tags lie inside their own range (E14 for nested tags) -/
def NestedInside : List Tag → Prop
  | [] => True
  | .range _ lo hi sub _ :: ts => (∀ t ∈ sub, lo ≤ t.value ∧ t.value ≤ hi) ∧ NestedInside ts
  | _ :: ts => NestedInside ts

theorem named_top_or_inrange (tags : List Tag) (h : NestedInside tags) :
    ∀ t ∈ namedTags tags, t ∈ topTags tags ∨ ∃ r ∈ ranges tags, inRng r t.value = true := by
  induction tags with
  | nil => intro _ ht; cases ht
  | cons tg ts ih =>
    intro t ht
    cases tg with
    | value t0 =>
      rcases List.mem_cons.mp ht with rfl | ht
      · exact Or.inl (List.mem_cons_self ..)
      · exact (ih h t ht).imp_left (List.mem_cons_of_mem _)
    | other _ _ => exact ih h t ht
    | range rid lo hi sub l =>
      rcases List.mem_append.mp ht with hs | ht
      · exact Or.inr ⟨(rid, lo, hi), List.mem_cons_self .., by simpa [inRng] using h.1 t hs⟩
      · exact (ih h.2 t ht).imp_right fun ⟨r, hr, hv⟩ => ⟨r, List.mem_cons_of_mem _ hr, hv⟩

theorem TopCovered.covered {tags : List Tag} {x : Nat} : TopCovered tags x → Covered tags x :=
  Or.imp_left fun ⟨t, ht, hv⟩ => ⟨t, topTags_sub_named _ t ht, hv⟩

theorem covered_iff_topCovered {tags : List Tag} (h : NestedInside tags) (x : Nat) : Covered tags x ↔ TopCovered tags x := by
  refine ⟨?_, TopCovered.covered⟩
  rintro (⟨t, ht, rfl⟩ | hr)
  · exact (named_top_or_inrange tags h t ht).imp (fun h1 => ⟨t, h1, rfl⟩) id
  · exact Or.inr hr

theorem cxxIsValid_iff_topCovered (e : Decl) (x : Nat) : cxxIsValid e x = true ↔ TopCovered e.tags x := by
  simp only [cxxIsValid, TopCovered, Bool.or_eq_true, List.any_eq_true, beq_iff_eq]

theorem pyFromInt_ne_raise_iff_topCovered (e : Decl) (x : Nat) :
    pyFromInt e x ≠ .raise ↔ TopCovered e.tags x ∨ (otherTag e.tags).isSome = true := by
  unfold pyFromInt TopCovered
  cases hf : (topTags e.tags).find? (·.value == x) with
  | some t =>
    simp only [ne_eq, reduceCtorEq, not_false_eq_true, true_iff]
    exact Or.inl (Or.inl ⟨t, List.mem_of_find?_eq_some hf, by simpa using List.find?_some hf⟩)
  | none =>
    have : ¬ ∃ t ∈ topTags e.tags, t.value = x := fun ⟨t, ht, hv⟩ => List.find?_eq_none.mp hf t ht (by simp [hv])
    simp only [this, false_or, ← List.any_eq_true (p := (inRng · x))]
    cases (otherTag e.tags).isSome <;> cases (ranges e.tags).any (inRng · x) <;> simp

end Enum
end Pdlv
