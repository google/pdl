/-
  Pdlv.Lemmas.Eats — what a successful decoder step leaves: `Eats m r bs`, the remainder `r` is `bs` without a
  prefix of at least `m` octets.  One induction over the layout (`eats_all`) gives both halves of C01's
  "never returns more than it was given": the remainder is a suffix of the input, and at least the octets
  the layout makes mandatory are consumed.
-/
import Pdlv.Lemmas.Dec
import Pdlv.Lemmas.ArrPlan
import Pdlv.Lemmas.Layout

namespace Pdlv

def IsSuffix (r bs : Bytes) : Prop := ∃ c, bs = c ++ r

theorem IsSuffix.refl (bs : Bytes) : IsSuffix bs bs := ⟨[], rfl⟩

theorem IsSuffix.drop (bs : Bytes) (k : Nat) : IsSuffix (bs.drop k) bs :=
  ⟨bs.take k, (List.take_append_drop k bs).symm⟩

theorem IsSuffix.trans {a b c : Bytes} (h1 : IsSuffix a b) (h2 : IsSuffix b c) : IsSuffix a c := by
  obtain ⟨x, rfl⟩ := h1
  obtain ⟨y, rfl⟩ := h2
  exact ⟨y ++ x, by simp⟩

theorem IsSuffix.length_le {a b : Bytes} (h : IsSuffix a b) : a.length ≤ b.length := by
  obtain ⟨x, rfl⟩ := h; simp

theorem IsSuffix.eq_drop {r bs : Bytes} (hs : IsSuffix r bs) (k : Nat) (hl : r.length + k = bs.length) : r = bs.drop k := by
  obtain ⟨c, rfl⟩ := hs
  have : c.length = k := by simp at hl; omega
  rw [← this, List.drop_left]

def SuffixSafe (f : Bytes → Dec (Value × Bytes)) : Prop :=
  ∀ bs v r, f bs = .ok (v, r) → IsSuffix r bs

/-- what every successful step of the decoder establishes, `m` being the octets its layout makes mandatory -/
def Eats (m : Nat) (r bs : Bytes) : Prop := ∃ c, bs = c ++ r ∧ m ≤ c.length

namespace Eats
variable {m n : Nat} {a b c r bs : Bytes}

theorem suffix (h : Eats m r bs) : IsSuffix r bs := let ⟨c, h, _⟩ := h; ⟨c, h⟩

theorem length_le (h : Eats m r bs) : r.length + m ≤ bs.length := by
  obtain ⟨c, rfl, h⟩ := h
  rw [List.length_append, Nat.add_comm]; exact Nat.add_le_add_right h _

theorem of_suffix (h : IsSuffix r bs) : Eats 0 r bs := let ⟨c, h⟩ := h; ⟨c, h, Nat.zero_le _⟩

theorem refl (bs : Bytes) : Eats 0 bs bs := of_suffix (.refl bs)

theorem drop {k : Nat} (h : k ≤ bs.length) : Eats k (bs.drop k) bs :=
  ⟨bs.take k, (List.take_append_drop k bs).symm, Nat.le_of_eq (List.length_take_of_le h).symm⟩

theorem trans (h1 : Eats m a b) (h2 : Eats n b c) : Eats (n + m) a c := by
  obtain ⟨x, rfl, hx⟩ := h1
  obtain ⟨y, rfl, hy⟩ := h2
  exact ⟨y ++ x, by simp, by rw [List.length_append]; exact Nat.add_le_add hy hx⟩
end Eats

/-! ### the remainder of a loop: `decRepeat` threads it, the other loops leave `drop` -/

theorem decRepeat_suffix (f : Bytes → Dec (Value × Bytes)) (hf : SuffixSafe f) :
    ∀ n bs vs r, decRepeat f n bs = .ok (vs, r) → IsSuffix r bs := by
  intro n
  induction n with
  | zero => intro bs _ _ h; cases h; exact .refl bs
  | succ n ih =>
    intro bs vs r h
    obtain ⟨v, b1, vs', h1, h2, _⟩ := decRepeat_succ_ok_iff.mp h
    exact (ih b1 vs' r h2).trans (hf bs v b1 h1)

theorem decArray_suffix {m : Mode} {el : Bytes → Dec (Value × Bytes)} (hel : SuffixSafe el)
    {ew : ElemWidth} {shape : Shape} {cnt siz esz : Option Nat} {sp : Bytes} {vs : List Value} {r : Bytes}
    (h : decArray m el ew shape cnt siz esz sp = .ok (vs, r)) : IsSuffix r sp := by
  rcases runArr_rest (decArray_eq_runArr .. ▸ h) with ⟨n, h⟩ | ⟨k, rfl⟩
  · exact decRepeat_suffix el hel n sp vs r h
  · exact .drop sp k

theorem withPad_eats {pad : Option Nat} {bs : Bytes} {k : Bytes → Dec (List Value × Bytes)}
    (hk : ∀ sp vs r, k sp = .ok (vs, r) → IsSuffix r sp) {vs : List Value} {r : Bytes}
    (h : withPad pad bs k = .ok (vs, r)) : Eats (pad.getD 0) r bs := by
  cases pad with
  | none => exact .of_suffix (hk bs vs r h)
  | some p =>
    simp only [withPad, Outcome.ite_err_eq_ok, Outcome.bind_ok_iff] at h
    obtain ⟨hp, _, _, h⟩ := h
    cases h; exact .drop (Nat.not_lt.mp hp)

theorem eats_all (c : Cfg) :
    (∀ ty bs v r, decTy c ty bs = .ok (v, r) → Eats (minTy ty) r bs) ∧
    (∀ i bs st st' r, decItem c i bs st = .ok (st', r) → Eats (minItem i) r bs) ∧
    (∀ is bs st st' r, decItems c is bs st = .ok (st', r) → Eats (minItems is) r bs) ∧
    (∀ b bs v r, decBody c b bs = .ok (v, r) → Eats (minBody b) r bs) := by
  apply Layout.induction
  case scalar => intro w bs v r h; obtain ⟨hl, rfl⟩ := decTy_prim_ok rfl h; exact .drop hl
  case enumTy => intro nm en bs v r h; obtain ⟨hl, rfl⟩ := decTy_prim_ok rfl h; exact .drop hl
  case custom => intro nm w bs v r h; obtain ⟨hl, rfl⟩ := decTy_prim_ok rfl h; exact .drop hl
  case struct => intro nm b ih bs v r h; exact ih bs v r h
  case chunk =>
    intro fs bs st st' r h
    obtain ⟨hl, rfl, _⟩ := decChunk_ok_iff.mp h
    exact .drop hl
  case typedef =>
    intro id ty sb ih bs st st' r h
    obtain ⟨v, hv, _⟩ := decItem_typedef_ok_iff.mp h
    exact ih bs v r hv
  case optional =>
    intro id ty cid cval ih bs st st' r h
    obtain ⟨_, _, ⟨_, x, hx, _⟩ | ⟨_, rfl, _⟩⟩ := decItem_optional_ok h
    · exact .of_suffix (ih bs x r hx).suffix
    · exact .refl _
  case payload =>
    intro mode bs st st' r h
    obtain ⟨p, _, rfl, _⟩ := decItem_payload_ok h
    exact ⟨p, rfl, Nat.zero_le _⟩
  case array =>
    intro id elem ew shape pad ih bs st st' r h
    obtain ⟨_, vs, hv, _⟩ := decItem_array_ok_iff.mp h
    exact withPad_eats (fun _ _ _ hq => decArray_suffix (fun b v q hb => (ih b v q hb).suffix) hq) hv
  case nil => intro bs st st' r h; cases h; exact .refl _
  case cons =>
    intro i is ihi ihr bs st st' r h
    obtain ⟨st1, b1, h1, h2⟩ := decItems_cons_ok_iff.mp h
    exact (ihr b1 st1 st' r h2).trans (ihi bs st st1 b1 h1)
  case root =>
    intro _ items ih bs v r h
    obtain ⟨st1, h1, _⟩ := decBody_root_ok_iff.mp h
    exact ih bs DState.empty st1 r h1
  case derived =>
    intro _ parent cs _ items ihp _ bs v r h
    obtain ⟨pv, h1, _⟩ := decBody_derived_ok_iff.mp h
    exact ihp bs pv r h1

theorem decTy_suffix (c : Cfg) : ∀ (ty : Ty), SuffixSafe (decTy c ty) :=
  fun ty bs v r h => ((eats_all c).1 ty bs v r h).suffix

theorem decItem_suffix (c : Cfg) : ∀ (i : Item) (bs : Bytes) (st st' : DState) (r : Bytes),
    decItem c i bs st = .ok (st', r) → IsSuffix r bs :=
  fun i bs st st' r h => ((eats_all c).2.1 i bs st st' r h).suffix

theorem decItems_suffix (c : Cfg) : ∀ (is : Items) (bs : Bytes) (st st' : DState) (r : Bytes),
    decItems c is bs st = .ok (st', r) → IsSuffix r bs :=
  fun is bs st st' r h => ((eats_all c).2.2.1 is bs st st' r h).suffix

theorem decTy_length_le (c : Cfg) (ty : Ty) (bs : Bytes) (v : Value) (r : Bytes) (h : decTy c ty bs = .ok (v, r)) :
    r.length ≤ bs.length :=
  (decTy_suffix c ty bs v r h).length_le

theorem decTy_consumes {c : Cfg} {ty : Ty} {bs : Bytes} {v : Value} {r : Bytes}
    (h : decTy c ty bs = .ok (v, r)) : r.length + minTy ty ≤ bs.length :=
  ((eats_all c).1 ty bs v r h).length_le

theorem decItem_consumes {c : Cfg} {i : Item} {bs : Bytes} {st st' : DState} {r : Bytes}
    (h : decItem c i bs st = .ok (st', r)) : r.length + minItem i ≤ bs.length :=
  ((eats_all c).2.1 i bs st st' r h).length_le

theorem decItems_consumes (c : Cfg) : ∀ (is : Items) (bs : Bytes) (st st' : DState) (r : Bytes),
    decItems c is bs st = .ok (st', r) → r.length + minItems is ≤ bs.length :=
  fun is bs st st' r h => ((eats_all c).2.2.1 is bs st st' r h).length_le

end Pdlv
