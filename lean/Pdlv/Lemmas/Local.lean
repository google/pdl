/-
  Pdlv.Lemmas.Local — the decoder of a statically sized type reads exactly its static size: the result
  on a longer input is the result on the prefix with the extra octets appended to the remainder.
  The working notion is `Reads f n` (closed under `Reads.bind`; one induction, `reads_all`); `Local` and
  `Exact` are its two readings.
-/
import Pdlv.Lemmas.Dec
import Pdlv.Lemmas.ArrPlan
import Pdlv.Lemmas.Layout

namespace Pdlv

def appR {α : Type} (o : Dec (α × Bytes)) (b : Bytes) : Dec (α × Bytes) :=
  match o with
  | .ok (v, r) => .ok (v, r ++ b)
  | .err e => .err e
  | .panic h => .panic h

/-- `f` reads exactly `n` octets: unaffected by what follows them, and on success consumes exactly `n` -/
def Local {α : Type} (f : Bytes → Dec (α × Bytes)) (n : Nat) : Prop :=
  ∀ a b, n ≤ a.length → f (a ++ b) = appR (f a) b ∧ ∀ v r, f a = .ok (v, r) → r.length + n = a.length

/-- exact consumption, without assuming the input is long enough -/
def Exact {α : Type} (f : Bytes → Dec (α × Bytes)) (n : Nat) : Prop :=
  ∀ a v r, f a = .ok (v, r) → r.length + n = a.length

theorem Local.take {α : Type} {f : Bytes → Dec (α × Bytes)} {n : Nat} (hf : Local f n) (bs : Bytes) (h : n ≤ bs.length) :
    f bs = (f (bs.take n)).bind fun x => .ok (x.1, bs.drop n) := by
  have hl : (bs.take n).length = n := List.length_take_of_le h
  obtain ⟨h1, h2⟩ := hf (bs.take n) (bs.drop n) (Nat.le_of_eq hl.symm)
  rw [List.take_append_drop] at h1
  rw [h1]
  cases hfa : f (bs.take n) with
  | ok x =>
    have : x.2 = [] :=
      List.eq_nil_of_length_eq_zero (Nat.add_right_cancel ((h2 x.1 x.2 hfa).trans (hl.trans (Nat.zero_add n).symm)))
    simp [appR, this]
  | err e => rfl
  | panic q => rfl

/-- `f` is a window of `n` octets: a success consumes exactly `n`, and octets after the first `n` pass
    through to the remainder untouched.  Closed under sequencing (`Reads.bind`), which is all the
    decoder of a static layout is made of. -/
structure Reads {α : Type} (f : Bytes → Dec (α × Bytes)) (n : Nat) : Prop where
  exact : Exact f n
  append : ∀ a b, n ≤ a.length → f (a ++ b) = appR (f a) b

namespace Reads
variable {α β : Type} {n m : Nat}

theorem «local» {f : Bytes → Dec (α × Bytes)} (h : Reads f n) : Local f n :=
  fun a b hn => ⟨h.append a b hn, h.exact a⟩

theorem pure (x : α) : Reads (fun bs => .ok (x, bs)) 0 :=
  ⟨fun _ _ _ h => by cases h; rfl, fun _ _ _ => rfl⟩

theorem fail {o : Dec (α × Bytes)} (ho : ∀ p, o ≠ .ok p) : Reads (fun _ => o) n :=
  ⟨fun _ v r h => (ho _ h).elim, fun _ _ _ => by cases o <;> first | rfl | exact (ho _ rfl).elim⟩

theorem bind {g : Bytes → Dec (α × Bytes)} {k : α → Bytes → Dec (β × Bytes)} (hg : Reads g n)
    (hk : ∀ x, Reads (k x) m) : Reads (fun bs => (g bs).bind fun p => k p.1 p.2) (n + m) := by
  constructor
  · intro a v r h
    obtain ⟨⟨x, a1⟩, h1, h2⟩ := Outcome.bind_ok_iff.mp h
    rw [← hg.exact a x a1 h1, ← (hk x).exact a1 v r h2, Nat.add_comm n m, Nat.add_assoc]
  · intro a b hl
    simp only [hg.append a b (Nat.le_trans (Nat.le_add_right n m) hl)]
    cases h1 : g a with
    | err e => rfl
    | panic q => rfl
    | ok p =>
      have := hg.exact a p.1 p.2 h1
      rw [← this, Nat.add_comm _ n] at hl
      exact (hk p.1).append p.2 b (Nat.le_of_add_le_add_left hl)

theorem map {g : Bytes → Dec (α × Bytes)} (hg : Reads g n) (φ : α → β) :
    Reads (fun bs => (g bs).bind fun p => .ok (φ p.1, p.2)) n :=
  hg.bind (m := 0) fun x => pure (φ x)

theorem guard {f : Bytes → Dec (α × Bytes)} (hf : Reads f n) {o : Dec (α × Bytes)}
    (ho : ∀ p, o ≠ .ok p) : Reads (fun bs => if bs.length < n then o else f bs) n := by
  constructor
  · intro a v r h
    dsimp only at h
    split at h
    · exact (ho _ h).elim
    · exact hf.exact a v r h
  · intro a b hl
    simp only [List.length_append]
    rw [if_neg (Nat.not_lt.mpr (Nat.le_add_right_of_le hl)), if_neg (Nat.not_lt.mpr hl)]
    exact hf.append a b hl
end Reads

/-- the shape of every primitive read: a length check, a result computed from the first `n` octets, the rest
    handed back -/
theorem Reads.window {α β : Type} (n : Nat) {o : Dec (β × Bytes)} (ho : ∀ p, o ≠ .ok p) (g : Bytes → Dec α) (φ : α → β) :
    Reads (fun bs => if bs.length < n then o else (g (bs.take n)).bind fun x => .ok (φ x, bs.drop n)) n := by
  constructor
  · intro a v r h
    dsimp only at h
    split at h
    · exact (ho _ h).elim
    · obtain ⟨_, _, h⟩ := Outcome.bind_ok_iff.mp h
      cases h
      rw [List.length_drop]; exact Nat.sub_add_cancel (Nat.not_lt.mp ‹_›)
  · intro a b h
    simp only [List.length_append]
    rw [if_neg (Nat.not_lt.mpr (Nat.le_add_right_of_le h)), if_neg (Nat.not_lt.mpr h),
      List.take_append_of_le_length h, List.drop_append_of_le_length h]
    cases g (a.take n) <;> rfl

theorem getUint_reads (e : Endian) (w : Nat) : Reads (getUint e w) (w / 8) :=
  Reads.window (w / 8) (o := .panic .readOOB) (fun _ => nofun) (fun h => .ok (rdInt e h)) id

theorem decChunk_reads (e : Endian) (ideal : Bool) (fs : List BitField) (st : DState) :
    Reads (fun bs => decChunk e ideal fs bs st) (chunkBits fs / 8) := by
  simp only [decChunk_eq]
  exact Reads.window _ (o := .err .length) (fun _ => nofun) (fun h => decChunkFields ideal fs 0 (rdInt e h) st) id

theorem decRepeat_reads (f : Bytes → Dec (Value × Bytes)) (w : Nat) (hf : Reads f w) :
    ∀ (n : Nat), Reads (decRepeat f n) (n * w) := by
  intro n
  induction n with
  | zero => rw [Nat.zero_mul]; exact Reads.pure (α := List Value) []
  | succ n ih =>
    rw [show (n + 1) * w = w + n * w from (Nat.succ_mul n w).trans (Nat.add_comm ..)]
    exact hf.bind fun v => ih.map (v :: ·)

/-- an array in a padded span: the span is the window -/
theorem withPad_reads (p : Nat) (k : Bytes → Dec (List Value × Bytes)) :
    Reads (fun bs => withPad (some p) bs k) p :=
  Reads.window p (o := .err .length) (fun _ => nofun) k Prod.fst

-- a body is reached only as the type `.struct nm b`: its statement is the one for that type, so the `struct` case is
-- the induction hypothesis itself
theorem reads_all (c : Cfg) :
    (∀ ty n, staticTy ty = some n → localWfTy ty = true → Reads (decTy c ty) n) ∧
    (∀ i n st, staticItem i = some n → localWfItem i = true → Reads (fun bs => decItem c i bs st) n) ∧
    (∀ is n st, staticItems is = some n → localWfItems is = true → Reads (fun bs => decItems c is bs st) n) ∧
    (∀ b nm n, staticTy (.struct nm b) = some n → localWfTy (.struct nm b) = true → Reads (decTy c (.struct nm b)) n) := by
  apply Layout.induction
  case scalar => intro w n hs _; cases hs; exact (getUint_reads c.e w).map Value.int
  case enumTy =>
    intro nm en n hs _
    cases hs
    have key : ∀ v, Reads (fun r => if enumOk en v then .ok (Value.int v, r) else (.err .enumValue : Dec (Value × Bytes))) 0 := by
      intro v; split
      · exact .pure _
      · exact .fail fun _ => nofun
    exact (getUint_reads c.e en.width).bind key
  case custom =>
    intro nm w n hs _
    cases hs
    exact ((getUint_reads c.e w).map Value.int).guard (o := .err .length) fun _ => nofun
  case struct => intro nm b ih n hs hw; exact ih nm n hs hw
  case chunk => intro fs n st hs _; cases hs; exact decChunk_reads c.e _ fs st
  case typedef =>
    intro id ty sb ih n st hs hw
    have hty := (ih n hs hw).map fun v => { st with fields := st.fields ++ [(id, v)] }
    cases ty with
    | custom nm w =>
      cases hs
      refine (((getUint_reads c.e w).map fun v => { st with fields := st.fields ++ [(id, Value.int v)] }).guard
        (o := match c.mode with | .rust => .panic .customRead | .ideal => .err .length) ?_)
      cases c.mode <;> nofun
    | scalar w | enumTy nm en | struct nm bd => exact hty
  case optional => intro id ty cid cval _ n st hs _; cases hs
  case payload => intro md n st hs _; cases hs
  case array =>
    intro id elem ew shape pad ih n st hs hw
    simp only [localWfItem, Bool.and_eq_true] at hw
    simp only [decItem]
    split
    · exact .fail nofun
    · refine Reads.map ?_ fun vs => { st with fields := st.fields ++ [(id, Value.arr vs)] }
      cases pad with
      | some p => cases hs; exact withPad_reads _ _
      | none =>
        -- without padding only a static count of static elements has a static size
        cases shape with
        | countField | sizeField | unknown => cases hs
        | «static» cnt =>
        cases ew with
        | dynamic | unknown => cases hw.2
        | «static» w =>
        have hst : staticTy elem = some w := by simpa using hw.2
        simp only [staticItem, hst, Option.map_some, Option.some.injEq] at hs
        subst hs
        simp only [withPad, decArray_static_static]
        exact (decRepeat_reads _ w (ih w hst hw.1) cnt).guard nofun
  case nil => intro n st hs _; cases hs; exact .pure st
  case cons =>
    intro i r ihi ihr n st hs hw
    simp only [localWfItems, Bool.and_eq_true] at hw
    simp only [staticItems] at hs
    split at hs <;> cases hs
    rename_i n1 n2 hi hr
    exact (ihi n1 st hi hw.1).bind fun st1 => ihr n2 st1 hr hw.2
  case root =>
    intro _ items ih nm n hs hw
    exact (ih n DState.empty hs hw).map DState.value
  case derived => intro _ _ _ _ _ _ _ nm n hs _; cases hs

theorem decTy_reads (c : Cfg) : ∀ (ty : Ty) (n : Nat), staticTy ty = some n → localWfTy ty = true →
    Reads (decTy c ty) n := (reads_all c).1

theorem decItem_reads (c : Cfg) : ∀ (i : Item) (n : Nat) (st : DState), staticItem i = some n → localWfItem i = true →
    Reads (fun bs => decItem c i bs st) n := (reads_all c).2.1

theorem decItems_reads (c : Cfg) : ∀ (is : Items) (n : Nat) (st : DState), staticItems is = some n →
    localWfItems is = true → Reads (fun bs => decItems c is bs st) n := (reads_all c).2.2.1

theorem decTy_local (c : Cfg) : ∀ (ty : Ty) (n : Nat), staticTy ty = some n → localWfTy ty = true →
    Local (decTy c ty) n :=
  fun ty n hs hw => (decTy_reads c ty n hs hw).local

theorem decItem_local (c : Cfg) : ∀ (i : Item) (n : Nat) (st : DState), staticItem i = some n → localWfItem i = true →
    Local (fun bs => decItem c i bs st) n :=
  fun i n st hs hw => (decItem_reads c i n st hs hw).local

theorem decItems_local (c : Cfg) : ∀ (is : Items) (n : Nat) (st : DState), staticItems is = some n →
    localWfItems is = true → Local (fun bs => decItems c is bs st) n :=
  fun is n st hs hw => (decItems_reads c is n st hs hw).local

theorem decTy_exact_len (c : Cfg) : ∀ (ty : Ty) (n : Nat), staticTy ty = some n → localWfTy ty = true →
    Exact (decTy c ty) n :=
  fun ty n hs hw => (decTy_reads c ty n hs hw).exact

theorem decItem_exact_len (c : Cfg) : ∀ (i : Item) (n : Nat) (st : DState), staticItem i = some n →
    localWfItem i = true → Exact (fun bs => decItem c i bs st) n :=
  fun i n st hs hw => (decItem_reads c i n st hs hw).exact

theorem decItems_exact_len (c : Cfg) : ∀ (is : Items) (n : Nat) (st : DState), staticItems is = some n →
    localWfItems is = true → Exact (fun bs => decItems c is bs st) n :=
  fun is n st hs hw => (decItems_reads c is n st hs hw).exact

end Pdlv
