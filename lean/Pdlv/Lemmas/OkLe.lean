/-
  Pdlv.Lemmas.OkLe — "whatever `p` returns, `q` returns too": `OkLe p q`.  One-directional: only the success of `p`
  is carried over, and continuations are compared on what `p` returned.  The development uses it for serializers
  (the reference-mode encoder against a back end that makes fewer checks and never different arithmetic: the
  `…_okLe` lemmas of Lemmas/Enc and Lemmas/ChunkEnc); it is the relation for any one-directional comparison, of
  parsers too.  `Cxx.Refines` / `Py.Same` (Lemmas/Refines) also relate the failures.
-/
import Pdlv.Lemmas.Outcome

namespace Pdlv
open Outcome

def OkLe {ε α : Type} (p q : Outcome ε α) : Prop := ∀ a, p = .ok a → q = .ok a

namespace OkLe
variable {ε α β : Type} {p q r : Outcome ε α}

theorem rfl : OkLe p p := fun _ h => h
theorem of_eq (h : p = q) : OkLe p q := h ▸ rfl
theorem trans (h1 : OkLe p q) (h2 : OkLe q r) : OkLe p r := fun a h => h2 a (h1 a h)

theorem bind {f g : α → Outcome ε β} (h : OkLe p q) (hf : ∀ a, p = .ok a → OkLe (f a) (g a)) : OkLe (p.bind f) (q.bind g) := by
  intro b hb
  obtain ⟨a, ha, hfa⟩ := bind_ok_iff.mp hb
  rw [h a ha]; exact hf a ha b hfa

/-- a check the other side does not make -/
theorem drop_check {γ : Type} (chk : Outcome ε γ) (p : Outcome ε α) : OkLe (chk.bind fun _ => p) p := by
  intro a ha
  obtain ⟨_, _, h⟩ := bind_ok_iff.mp ha
  exact h

end OkLe

end Pdlv
