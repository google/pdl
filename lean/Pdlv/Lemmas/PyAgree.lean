/-
  Pdlv.Lemmas.PyAgree — the model of the parser the Python back end emits (`Pdlv.Py`) refines the reference
  decoder (`Pdlv.decBody`, reference mode) on the layouts `Py.wfBody` — i.e. outside the recorded deviations
  of python.rs: it accepts the same inputs with the same values (`Same`, the statements of C13), and it
  reaches an unsupported construct or an unchecked read only where the reference itself stops outside its
  domain.
-/
import Pdlv.Py
import Pdlv.Lemmas.Local
import Pdlv.Lemmas.Refines
import Pdlv.Lemmas.Layout
import Pdlv.Lemmas.Eats

namespace Pdlv

namespace Py
open Cxx (Refines ElemRef decArray_ref withPad_ref)

theorem run_needs (c : Cfg) : ∀ (is : Items), wfItems is = true → ∀ (bs rest : Bytes) (st st' : DState),
    Pdlv.decItems (ideal c) is bs st = .ok (st', rest) → (runInfo is).1 ≤ bs.length := fun is => by
  induction is using Items.induction with
  | nil => simp [runInfo]
  | cons i r ih =>
    intro hw bs rest st st' h
    simp only [wfItems, Bool.and_eq_true] at hw
    simp only [runInfo]
    cases hr : runLen i with
    | none => simp
    | some n =>
      obtain ⟨st1, b1, h1, h2⟩ := decItems_cons_ok_iff.mp h
      have ih := ih hw.2 b1 rest st1 st' h2
      have hex : b1.length + n = bs.length := by
        cases i with
        | chunk fs =>
          simp only [runLen, Option.some.injEq] at hr
          subst hr
          exact decItem_exact_len (ideal c) (.chunk fs) _ st (by simp [staticItem]) (by simp [localWfItem]) bs st1 b1 h1
        | typedef id ty sb =>
          cases sb with
          | none => simp [runLen] at hr
          | some m =>
            simp only [runLen, Option.some.injEq] at hr
            subst hr
            simp only [wfItem, Bool.and_eq_true, beq_iff_eq] at hw
            exact decItem_exact_len (ideal c) (.typedef id ty (some m)) m st (by simpa [staticItem] using hw.1.2.1)
              (by simpa [localWfItem] using hw.1.2.2) bs st1 b1 h1
        | _ => simp [runLen] at hr
      cases hri : runInfo r with
      | mk m q =>
        simp only [hri] at ih ⊢
        omega

theorem refines_all (c : Cfg) :
    (∀ ty, wfTy ty = true → ∀ bs, Refines (Py.decTy c ty bs) (Pdlv.decTy (ideal c) ty bs)) ∧
    (∀ i rest, wfItem rest i = true → ∀ (bs : Bytes) (st : DState),
      Refines (Py.decItem c rest i bs st) (Pdlv.decItem (ideal c) i bs st)) ∧
    (∀ is, wfItems is = true → ∀ (inRun : Bool) (bs : Bytes) (st : DState),
      Refines (Py.decItems c is inRun bs st) (Pdlv.decItems (ideal c) is bs st)) ∧
    (∀ b, wfBody b = true → ∀ bs, Refines (Py.decBody c b bs) (Pdlv.decBody (ideal c) b bs)) := by
  apply Layout.induction
  case scalar => intro w _ bs; exact Refines.of_eq rfl
  case enumTy => intro nm en _ bs; exact Refines.of_eq rfl
  case custom => intro nm w hw; simp [wfTy] at hw
  case struct =>
    intro nm b ih hw bs
    cases b with
    | root nm items => exact ih hw bs
    | derived => simp [wfTy] at hw
  case chunk =>
    intro fs rest hw bs st
    simp only [wfItem, Bool.and_eq_true, Bool.not_eq_true'] at hw
    simp only [Py.decItem, hw.1, Bool.false_eq_true, ↓reduceIte, Pdlv.decItem, ideal, BEq.rfl]
    exact Refines.of_eq (decChunk_modeFree (bfPlain_eq ▸ hw.2) c.e true bs st).symm
  case typedef =>
    intro id ty sb ih rest hw bs st
    have hwt : wfTy ty = true := by
      cases sb <;> simp only [wfItem, Bool.and_eq_true] at hw <;> exact hw.1
    rw [decItem_typedef_eq fun nm w e => by simp [e, wfTy] at hwt]
    cases sb with
    | none => exact Refines.bind (ih hwt bs) fun _ _ => Refines.rfl
    | some n =>
      -- `T.parse_all(span[:n])` is sequential decoding, because the reference reads exactly the static size `n`
      simp only [wfItem, Bool.and_eq_true, beq_iff_eq] at hw
      have hexa := decTy_exact_len (ideal c) ty n hw.2.1 hw.2.2
      simp only [Py.decItem]
      refine Refines.guard _ (fun hlt a ha => ?_) fun hge => ?_
      · obtain ⟨x, hx, _⟩ := Outcome.bind_ok_iff.mp ha
        have := hexa bs x.1 x.2 hx; omega
      · rw [(decTy_local (ideal c) ty n hw.2.1 hw.2.2).take bs (by omega), Outcome.bind_bind]
        refine Refines.bind (ih hwt _) fun x hx => ?_
        have : x.2 = [] := List.eq_nil_of_length_eq_zero (by
          have := hexa _ x.1 x.2 hx; rw [List.length_take] at this; omega)
        simp only [this, List.isEmpty_nil, ↓reduceIte]
        exact Refines.rfl
  case optional =>
    intro id ty cid cval ih rest hw bs st
    simp only [wfItem] at hw
    simp only [Py.decItem, Pdlv.decItem]
    cases st.ctx.get (.val cid) with
    | none => exact Refines.rfl
    | some cv =>
      exact Refines.ite (fun _ => Refines.ite (fun _ => Refines.rfl)
        fun _ => Refines.bind (ih hw bs) fun _ _ => Refines.rfl) fun _ => Refines.rfl
  case payload =>
    intro mode rest hw bs st
    cases mode with
    | sized m =>
      simp only [wfItem, beq_iff_eq] at hw
      subst hw
      simp only [Py.decItem, Pdlv.decItem]
      cases st.ctx.get (.size "_payload_") with
      | none => exact Refines.rfl
      | some sz => simp only [Nat.not_lt_zero, ↓reduceIte]; exact Refines.rfl
    | last =>
      simp only [wfItem, beq_iff_eq] at hw
      exact Refines.of_eq (by simp only [Py.decItem, hw, ↓reduceIte, Pdlv.decItem])
    | beforeStatic k =>
      simp only [wfItem, beq_iff_eq] at hw
      exact Refines.of_eq (by simp only [Py.decItem, hw, decItem_payload_beforeStatic])
    | undelimited => simp [wfItem] at hw
  case array =>
    intro id elem ew shape pad ih rest hw bs st
    simp only [wfItem, Bool.and_eq_true] at hw
    have harr : Refines
        ((withPad pad bs (decArray .ideal (Py.decTy c elem) ew shape (st.ctx.get (.count id)) (st.ctx.get (.size id))
            (st.ctx.get (.esize id)))).bind fun (vs, r) => .ok ({ st with fields := st.fields ++ [(id, Value.arr vs)] }, r))
        ((withPad pad bs (decArray .ideal (Pdlv.decTy (ideal c) elem) ew shape (st.ctx.get (.count id)) (st.ctx.get (.size id))
            (st.ctx.get (.esize id)))).bind fun (vs, r) => .ok ({ st with fields := st.fields ++ [(id, Value.arr vs)] }, r)) :=
      Refines.bind (withPad_ref pad bs fun sp _ => decArray_ref (decTy_length_le _ elem)
        fun b _ => ih hw.1 b) fun _ _ => Refines.rfl
    simp only [Py.decItem, Pdlv.decItem, ideal]
    cases ew with
    | dynamic => simp at hw
    | _ => exact Refines.ite (fun _ => Refines.rfl) fun _ => harr
  case nil => intro _ _ bs st; exact Refines.rfl
  case cons =>
    intro i r ihi ihr hw inRun bs st
    have hw' := hw
    simp only [wfItems, Bool.and_eq_true] at hw'
    have step : ∀ (b : Bool), Refines ((Py.decItem c r i bs st).bind fun x => Py.decItems c r b x.2 x.1)
        (Pdlv.decItems (ideal c) (.cons i r) bs st) := fun b =>
      Refines.bind (ihi r hw'.1 bs st) fun x _ => ihr hw'.2 b x.2 x.1
    simp only [Py.decItems]
    cases hr : runLen i with
    | none => exact step false
    | some n =>
      simp only
      cases hri : runInfo (.cons i r) with
      | mk total quiet =>
        exact Refines.run_guard _ _ (fun a ha => by simpa only [hri] using run_needs c (.cons i r) hw bs a.2 st a.1 ha)
          (step true)
  case root => intro nm items ih hw bs; exact Refines.bind (ih hw false bs DState.empty) fun _ _ => Refines.rfl
  case derived => intro nm parent cs allCs items _ _ hw; simp [wfBody] at hw

theorem items_refines (c : Cfg) (is : Items) (hw : wfItems is = true) (inRun : Bool) (bs : Bytes) (st : DState) :
    Refines (Py.decItems c is inRun bs st) (Pdlv.decItems (ideal c) is bs st) :=
  (refines_all c).2.2.1 is hw inRun bs st

theorem ty_same (c : Cfg) : ∀ (ty : Ty), wfTy ty = true → ∀ bs, Same (Py.decTy c ty bs) (Pdlv.decTy (ideal c) ty bs) :=
  fun ty hw bs => ((refines_all c).1 ty hw bs).same

theorem item_same (c : Cfg) (rest : Items) : ∀ (i : Item), wfItem rest i = true → ∀ (bs : Bytes) (st : DState),
    Same (Py.decItem c rest i bs st) (Pdlv.decItem (ideal c) i bs st) :=
  fun i hw bs st => ((refines_all c).2.1 i rest hw bs st).same

theorem items_same (c : Cfg) : ∀ (is : Items), wfItems is = true → ∀ (inRun : Bool) (bs : Bytes) (st : DState),
    Same (Py.decItems c is inRun bs st) (Pdlv.decItems (ideal c) is bs st) :=
  fun is hw inRun bs st => (items_refines c is hw inRun bs st).same

end Py
end Pdlv
