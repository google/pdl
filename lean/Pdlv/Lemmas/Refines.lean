/-
  Pdlv.Lemmas.Refines — `Cxx.Refines`, the relation between a back end's parser and the reference decoder, with its
  congruence through `bind`, a leading length check, the loops, `decArray`, padding and `decode_partial`.  Element parsers are
  related on the spans no longer than the one at hand, so that one statement serves the C++ theorems (spans below 2^64) and
  the Python ones (every span).

  The development compares outcomes by four relations.  Three are two-directional: each side accepts exactly what the other
  accepts.  `Cxx.Refines p q`: same acceptance and results, and a hazard of `p` only where `q` stops too; the parsers of the
  Python and C++ back ends against the reference (`Py.Same` is its first half: the statements of C13; `Cxx.RefV`,
  Lemmas/CxxView, is `Refines` with an empty hazard slot beside the state).  `Java.SameFields R` (Lemmas/JavaChunk): the same
  between results of two types related by `R`, without the hazard half.  `OkLe p q` (Lemmas/OkLe) is the one-directional one:
  whatever `p` accepts `q` accepts with the same result.  The development uses it for serializers (the reference-mode encoder
  against a back end's serializer); it fits a one-directional comparison of parsers just as well.
  Their `bind` lemmas ask for the continuations to be related on a value the side returned that the proof will have in hand:
  `Refines.bind` on what the reference `q` returned (the reference's facts — consumed length, shape of the state — are the
  ones available), `OkLe.bind` on what `p` returned (the only success there is to start from), `SameFields.bind` on both,
  `Same.bind` unconditionally (it serves one statement about loops, where nothing more is known).
-/
import Pdlv.Py
import Pdlv.Lemmas.ArrPlan
import Pdlv.Lemmas.Dec

namespace Pdlv

namespace Py
/-- same acceptance, same result (which error is raised, or whether a rejected input is an error or
    an unsupported construct, is not compared) -/
def Same {α : Type} (p q : Dec α) : Prop := ∀ a, p = .ok a ↔ q = .ok a

theorem Same.rfl {α : Type} {p : Dec α} : Same p p := fun _ => Iff.rfl

theorem Same.bind {α β : Type} {p q : Dec α} {f g : α → Dec β} (h : Same p q) (hf : ∀ a, Same (f a) (g a)) :
    Same (p.bind f) (q.bind g) := fun b => by
  simp only [Outcome.bind_ok_iff]
  exact ⟨fun ⟨a, ha, hb⟩ => ⟨a, (h a).mp ha, (hf a b).mp hb⟩, fun ⟨a, ha, hb⟩ => ⟨a, (h a).mpr ha, (hf a b).mpr hb⟩⟩

theorem decRepeat_same (f g : Bytes → Dec (Value × Bytes)) (h : ∀ bs, Same (f bs) (g bs)) :
    ∀ (n : Nat) (bs : Bytes), Same (decRepeat f n bs) (decRepeat g n bs)
  | 0, _ => Same.rfl
  | n + 1, bs => Same.bind (h bs) fun x => Same.bind (decRepeat_same f g h n x.2) fun _ => Same.rfl

theorem zeroElem_same (m : Mode) (f g : Bytes → Dec (Value × Bytes)) (h : ∀ bs, Same (f bs) (g bs)) (n : Nat) (hz : Hazard)
    (sp : Bytes) : Same (zeroElem m f n hz sp) (zeroElem m g n hz sp) := by
  cases m with
  | rust => exact Same.rfl
  | ideal =>
    simp only [zeroElem]
    refine Same.bind (decRepeat_same _ _ (fun _ => Same.bind (h []) (fun _ => Same.rfl)) n []) (fun _ => Same.rfl)

/-- the reference decoder in the file's byte order -/
def ideal (c : Cfg) : Cfg := { e := c.e, mode := .ideal }

/-- the class of bit-field groups both back ends' parser theorems use (no array size modifier) is the decoder library's -/
theorem bfPlain_eq : bfPlain = BitField.modeFree := by
  funext f; cases f <;> rfl
end Py

namespace Cxx
open Outcome

def Refines {α : Type} (p q : Dec α) : Prop :=
  (∀ a, p = .ok a ↔ q = .ok a) ∧ (∀ h, p = .panic h → ∃ h', q = .panic h')

variable {α β : Type}

theorem Refines.same {p q : Dec α} (h : Refines p q) : Py.Same p q := h.1

theorem Refines.rfl {p : Dec α} : Refines p p := ⟨fun _ => Iff.rfl, fun h hp => ⟨h, hp⟩⟩

theorem Refines.of_eq {p q : Dec α} (h : p = q) : Refines p q := h ▸ Refines.rfl

theorem Refines.no_panic {p q : Dec α} (h : Refines p q) (hq : q.isPanic = false) (z : Hazard) : p ≠ .panic z := fun hp => by
  obtain ⟨z', hz⟩ := h.2 z hp
  rw [hz] at hq; cases hq

theorem Refines.bind {p q : Dec α} {f g : α → Dec β} (h : Refines p q)
    (hf : ∀ a, q = .ok a → Refines (f a) (g a)) : Refines (p.bind f) (q.bind g) := by
  cases hq : q with
  | ok a => rw [(h.1 a).mpr hq]; exact hf a hq
  | err _ | panic _ =>
    cases hp : p with
    | ok a => rw [(h.1 a).mp hp] at hq; cases hq
    | err e' => exact ⟨fun _ => by simp, fun _ hh => by cases hh⟩
    | panic z =>
      obtain ⟨_, hz⟩ := h.2 z hp
      rw [hq] at hz
      cases hz <;> exact ⟨fun _ => by simp, fun _ _ => ⟨_, Eq.refl _⟩⟩

theorem Refines.err_left (e : DecErr) (q : Dec α) (hq : ∀ a, q ≠ .ok a) : Refines (.err e) q :=
  ⟨fun a => ⟨fun h => (by cases h), fun h => absurd h (hq a)⟩, fun _ h => (by cases h)⟩

theorem Refines.err_err (e e' : DecErr) : Refines (.err e : Dec α) (.err e') :=
  Refines.err_left e _ (fun _ h => (by cases h))

/-- a check the back end makes first and the reference makes later, or in pieces: sound as soon as the
    reference cannot succeed when it fails -/
theorem Refines.guard {c : Prop} [Decidable c] (e : DecErr) {p q : Dec α} (hc : c → ∀ a, q ≠ .ok a)
    (h : ¬ c → Refines p q) : Refines (if c then .err e else p) q := by
  split
  · exact Refines.err_left e q (hc ‹_›)
  · exact h ‹_›

/-- the one length check a back end emits for a run of fields (`b`: whether it is emitted here): the reference, reading
    field by field, needs those `t` octets too -/
theorem Refines.run_guard (b : Bool) {t : Nat} {bs : Bytes} (e : DecErr) {p q : Dec α} (hq : ∀ a, q = .ok a → t ≤ bs.length)
    (h : Refines p q) : Refines (if (b && decide (bs.length < t)) = true then .err e else p) q :=
  Refines.guard e (fun hc a ha => absurd (hq a ha) (Nat.not_le.mpr (of_decide_eq_true (Bool.and_eq_true_iff.mp hc).2)))
    fun _ => h

theorem Refines.ite {c : Prop} [Decidable c] {p p' q q' : Dec α} (h1 : c → Refines p q) (h2 : ¬ c → Refines p' q') :
    Refines (if c then p else p') (if c then q else q') := by
  split
  · exact h1 ‹_›
  · exact h2 ‹_›

section loops
variable {f g : Bytes → Dec (Value × Bytes)}

def ElemRef (f g : Bytes → Dec (Value × Bytes)) (n : Nat) : Prop := ∀ b : Bytes, b.length ≤ n → Refines (f b) (g b)

theorem ElemRef.mono {n m : Nat} (h : ElemRef f g n) (hm : m ≤ n) : ElemRef f g m :=
  fun b hb => h b (Nat.le_trans hb hm)

theorem decRepeat_ref (hg : ∀ bs v r, g bs = .ok (v, r) → r.length ≤ bs.length) :
    ∀ (n : Nat) (bs : Bytes), ElemRef f g bs.length → Refines (decRepeat f n bs) (decRepeat g n bs)
  | 0, _, _ => Refines.rfl
  | n + 1, bs, h =>
    Refines.bind (h bs (Nat.le_refl _)) fun x hx =>
      Refines.bind (decRepeat_ref hg n x.2 (h.mono (hg bs x.1 x.2 hx))) fun _ _ => Refines.rfl

theorem decWhile_ref (fuel : Nat) (bs : Bytes) (h : ElemRef f g bs.length) : Refines (decWhile f fuel bs) (decWhile g fuel bs) := by
  induction fuel generalizing bs with
  | zero => exact Refines.rfl
  | succ fuel ih =>
    simp only [decWhile]
    split
    · exact Refines.rfl
    · refine Refines.bind (h bs (Nat.le_refl _)) fun x _ => ?_
      split
      · exact Refines.bind (ih x.2 (h.mono (by omega))) fun _ _ => Refines.rfl
      · exact Refines.rfl

theorem decChunked_ref (es n : Nat) (bs : Bytes) (h : ElemRef f g bs.length) :
    Refines (decChunked f es n bs) (decChunked g es n bs) := by
  induction n generalizing bs with
  | zero => exact Refines.rfl
  | succ n ih =>
    simp only [decChunked]
    split
    · exact Refines.rfl
    · refine Refines.bind (h _ (List.length_take_le' ..)) fun x _ => ?_
      split
      · exact Refines.bind (ih _ (h.mono (by simp [List.length_drop]))) fun _ _ => Refines.rfl
      · exact Refines.rfl

theorem zeroElem_ref (m : Mode) (n : Nat) (hz : Hazard) {sp : Bytes} (h : ElemRef f g sp.length) :
    Refines (zeroElem m f n hz sp) (zeroElem m g n hz sp) := by
  cases m with
  | rust => exact Refines.rfl
  | ideal =>
    refine Refines.bind (decRepeat_ref (g := fun _ => (g []).bind fun (v, _) => .ok (v, [])) ?_ n [] fun _ _ => ?_)
      fun _ _ => Refines.rfl
    · intro bs v r hr
      obtain ⟨_, _, h2⟩ := bind_ok_iff.mp hr
      cases h2; exact Nat.zero_le _
    · exact Refines.bind (h [] (Nat.zero_le _)) fun _ _ => Refines.rfl

theorem runArr_ref (hg : ∀ bs v r, g bs = .ok (v, r) → r.length ≤ bs.length) {sp : Bytes} (h : ElemRef f g sp.length) :
    ∀ (p : ArrPlan), Refines (runArr f sp p) (runArr g sp p)
  | .err _ => Refines.rfl
  | .panic _ => Refines.rfl
  | .rep n => decRepeat_ref hg n sp h
  | .whl _ => Refines.bind (decWhile_ref _ _ (h.mono (List.length_take_le' ..))) fun _ _ => Refines.rfl
  | .chunked es n _ _ => Refines.bind (decChunked_ref es n sp h) fun _ _ => Refines.rfl
  | .zero n => zeroElem_ref .ideal n .chunksZero h

theorem decArray_ref (hg : ∀ bs v r, g bs = .ok (v, r) → r.length ≤ bs.length) {m : Mode} {ew : ElemWidth} {shape : Shape}
    {cnt siz esz : Option Nat} {sp : Bytes} (h : ElemRef f g sp.length) :
    Refines (decArray m f ew shape cnt siz esz sp) (decArray m g ew shape cnt siz esz sp) := by
  rw [decArray_eq_runArr, decArray_eq_runArr]
  exact runArr_ref hg h _

end loops

theorem withPad_ref (pad : Option Nat) (bs : Bytes) {k1 k2 : Bytes → Dec (List Value × Bytes)}
    (h : ∀ sp : Bytes, sp.length ≤ bs.length → Refines (k1 sp) (k2 sp)) : Refines (withPad pad bs k1) (withPad pad bs k2) := by
  cases pad with
  | none => exact h bs (Nat.le_refl _)
  | some p =>
    simp only [withPad]
    split
    · exact Refines.rfl
    · exact Refines.bind (h _ (List.length_take_le' ..)) fun _ _ => Refines.rfl

theorem decPartialWith_ref {f g : Bytes → Dec (DState × Bytes)} (h : ∀ bs, Refines (f bs) (g bs))
    (parent : Body) (cs : List (String × Nat)) (pv : Value) :
    Refines (decPartialWith f parent cs pv) (decPartialWith g parent cs pv) := by
  rw [decPartialWith_eq, decPartialWith_eq]
  exact Refines.ite (fun _ => Refines.rfl) fun _ =>
    Refines.ite (fun _ => Refines.bind (h _) fun _ _ => Refines.rfl) fun _ => Refines.rfl

end Cxx
end Pdlv
