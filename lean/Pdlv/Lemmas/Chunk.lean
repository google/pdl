/-
  Pdlv.Lemmas.Chunk — what `decChunkFields` computes, free of the running shift and of the decoder state: a
  verdict and a state extension that depend only on `n = chunk / 2 ^ shift`.  A statement about a group is a
  per-field fact (one `cases f`, no induction, no arithmetic) folded over the list.
-/
import Pdlv.Static

namespace Pdlv

theorem foldl_add_shift (l : List Nat) (a : Nat) : l.foldl (· + ·) a = a + l.foldl (· + ·) 0 := by
  have := List.foldl_assoc (op := (· + · : Nat → Nat → Nat)) (l := l) (a₁ := a) (a₂ := 0)
  rwa [Nat.add_zero] at this

theorem chunkBits_nil : chunkBits [] = 0 := rfl

theorem chunkBits_cons (f : BitField) (fs : List BitField) : chunkBits (f :: fs) = f.width + chunkBits fs := by
  unfold chunkBits
  simp only [List.map_cons, List.foldl_cons]
  rw [foldl_add_shift, Nat.zero_add]

theorem chunkKeys_cons (f : BitField) (fs : List BitField) : chunkKeys (f :: fs) = chunkKeys [f] ++ chunkKeys fs := by
  cases f <;> rfl

theorem canonChunk_cons (v : Value) (f : BitField) (fs : List BitField) :
    canonChunk v (f :: fs) = canonChunk v [f] ++ canonChunk v fs := by
  cases f <;> rfl

/-- the decoder's objection to a field that holds `x` (`none`: accepted) -/
def BitField.reject (ideal : Bool) : BitField → Nat → Option DecErr
  | .enumTy _ _ e, x => if enumOk e x then none else some .enumValue
  | .fixed _ c, x => if x = c then none else some .fixedValue
  | .size t _ m, x => if ideal ∧ t ≠ "_payload_" then (if x < m then some .length else none) else none
  | _, _ => none

/-- the context entry a field that holds `x` binds -/
def BitField.binds (ideal : Bool) : BitField → Nat → List (Key × Nat)
  | .scalar id _, x => [(.val id, x)]
  | .flag id _, x => [(.val id, x)]
  | .enumTy id _ _, x => [(.val id, x)]
  | .size t _ m, x => [(.size t, if ideal ∧ t ≠ "_payload_" then x - m else x)]
  | .count t _, x => [(.count t, x)]
  | .elemSize t _, x => [(.esize t, x)]
  | _, _ => []

/-- the field of the decoded value it contributes -/
def BitField.yields : BitField → Nat → List (String × Value)
  | .scalar id _, x => [(id, .int x)]
  | .enumTy id _ _, x => [(id, .int x)]
  | _, _ => []

/-! ### the decoder, one group: `n` is the chunk shifted down to the group's first field -/

def chunkReject (ideal : Bool) : List BitField → Nat → Option DecErr
  | [], _ => none
  | f :: fs, n => (f.reject ideal (n % 2 ^ f.width)).or (chunkReject ideal fs (n / 2 ^ f.width))

/-- newest entry first, as the context is kept -/
def chunkBinds (ideal : Bool) : List BitField → Nat → List (Key × Nat)
  | [], _ => []
  | f :: fs, n => chunkBinds ideal fs (n / 2 ^ f.width) ++ f.binds ideal (n % 2 ^ f.width)

def chunkYields : List BitField → Nat → List (String × Value)
  | [], _ => []
  | f :: fs, n => f.yields (n % 2 ^ f.width) ++ chunkYields fs (n / 2 ^ f.width)

def DState.extend (st : DState) (ks : List (Key × Nat)) (vs : List (String × Value)) : DState :=
  { st with ctx := ks ++ st.ctx, fields := st.fields ++ vs }

theorem Ctx.get_append (a b : Ctx) (k : Key) : Ctx.get (a ++ b) k = (a.lookup k).or (Ctx.get b k) :=
  List.lookup_append ..

theorem Ctx.get_cons (k : Key) (x : Nat) (ctx : Ctx) (k' : Key) :
    Ctx.get ((k, x) :: ctx) k' = if k' = k then some x else ctx.get k' := by
  by_cases h : k' = k
  · rw [if_pos h, h]; exact List.lookup_cons_self
  · rw [if_neg h]; exact List.lookup_cons.trans (by rw [beq_false_of_ne h]; rfl)

theorem DState.extend_get (st : DState) (ks : List (Key × Nat)) (vs : List (String × Value)) (k : Key) :
    (st.extend ks vs).ctx.get k = (ks.lookup k).or (st.ctx.get k) :=
  Ctx.get_append ..

theorem decChunkFields_cons (ideal : Bool) (f : BitField) (fs : List BitField) (shift chunk : Nat) (st : DState) :
    decChunkFields ideal (f :: fs) shift chunk st =
      match f.reject ideal ((chunk / 2 ^ shift) % 2 ^ f.width) with
      | some e => .err e
      | none => decChunkFields ideal fs (shift + f.width) chunk
          (st.extend (f.binds ideal ((chunk / 2 ^ shift) % 2 ^ f.width)) (f.yields ((chunk / 2 ^ shift) % 2 ^ f.width))) := by
  cases f <;> simp only [decChunkFields, BitField.reject, BitField.binds, BitField.yields, DState.extend,
    List.nil_append, List.append_nil, List.cons_append]
  case enumTy => split <;> rfl
  case fixed => split <;> rfl
  case size =>
    split
    · split <;> rfl
    · rfl

/-- **`decChunkFields` in normal form**: neither the shift nor the state matter -/
theorem decChunkFields_eq (ideal : Bool) : ∀ (fs : List BitField) (shift chunk : Nat) (st : DState),
    decChunkFields ideal fs shift chunk st =
      match chunkReject ideal fs (chunk / 2 ^ shift) with
      | some e => .err e
      | none => .ok (st.extend (chunkBinds ideal fs (chunk / 2 ^ shift)) (chunkYields fs (chunk / 2 ^ shift))) := by
  intro fs
  induction fs with
  | nil => intro _ _ st; simp [decChunkFields, chunkReject, chunkBinds, chunkYields, DState.extend]
  | cons f fs ih =>
    intro shift chunk st
    rw [decChunkFields_cons, ih, Nat.pow_add, ← Nat.div_div_eq_div_mul]
    simp only [chunkReject, chunkBinds, chunkYields]
    cases f.reject ideal ((chunk / 2 ^ shift) % 2 ^ f.width) with
    | some e => rfl
    | none => simp [DState.extend, List.append_assoc]

theorem decChunkFields_ok_iff (ideal : Bool) (fs : List BitField) (shift chunk : Nat) (st st' : DState) :
    decChunkFields ideal fs shift chunk st = .ok st' ↔
      chunkReject ideal fs (chunk / 2 ^ shift) = none ∧
      st' = st.extend (chunkBinds ideal fs (chunk / 2 ^ shift)) (chunkYields fs (chunk / 2 ^ shift)) := by
  rw [decChunkFields_eq]
  cases chunkReject ideal fs (chunk / 2 ^ shift) <;> simp [eq_comm]

/-- the error of a group is the objection to its first rejected field, wherever it stands -/
theorem decChunkFields_err_iff (ideal : Bool) (fs : List BitField) (shift chunk : Nat) (st : DState) (e : DecErr) :
    decChunkFields ideal fs shift chunk st = .err e ↔ chunkReject ideal fs (chunk / 2 ^ shift) = some e := by
  rw [decChunkFields_eq]; cases chunkReject ideal fs (chunk / 2 ^ shift) <;> simp

/-! ### the two modes differ on a group only through array size modifiers -/

/-- no array size modifier (`x: T[+n]`, which only the reference subtracts from the size read) -/
def BitField.modeFree : BitField → Bool
  | .size t _ m => t == "_payload_" || m == 0
  | _ => true

theorem BitField.reject_binds_modeFree {f : BitField} (h : f.modeFree = true) (ideal : Bool) (x : Nat) :
    f.reject ideal x = f.reject false x ∧ f.binds ideal x = f.binds false x := by
  cases f with
  | size t w m =>
    simp only [modeFree, Bool.or_eq_true, beq_iff_eq] at h
    rcases h with rfl | rfl <;> simp [reject, binds]
  | _ => exact ⟨rfl, rfl⟩

theorem decChunkFields_modeFree {fs : List BitField} (h : fs.all BitField.modeFree = true) (ideal : Bool)
    (shift chunk : Nat) (st : DState) :
    decChunkFields ideal fs shift chunk st = decChunkFields false fs shift chunk st := by
  have key : ∀ (fs : List BitField), fs.all BitField.modeFree = true → ∀ n,
      chunkReject ideal fs n = chunkReject false fs n ∧ chunkBinds ideal fs n = chunkBinds false fs n := by
    intro fs
    induction fs with
    | nil => exact fun _ _ => ⟨rfl, rfl⟩
    | cons f fs ih =>
      intro h n
      rw [List.all_cons, Bool.and_eq_true] at h
      obtain ⟨h1, h2⟩ := BitField.reject_binds_modeFree h.1 ideal (n % 2 ^ f.width)
      simp only [chunkReject, chunkBinds, h1, h2, ih h.2]
      exact ⟨trivial, trivial⟩
  rw [decChunkFields_eq, decChunkFields_eq, (key fs h _).1, (key fs h _).2]

theorem chunkBinds_keys (ideal : Bool) : ∀ (fs : List BitField) (n : Nat),
    (chunkBinds ideal fs n).map Prod.fst = (chunkKeys fs).reverse := by
  intro fs
  induction fs with
  | nil => exact fun _ => rfl
  | cons f fs ih =>
    intro n
    rw [chunkBinds, List.map_append, ih]
    cases f <;> simp only [chunkKeys, List.reverse_cons, BitField.binds, List.map, List.append_nil]

theorem chunkYields_ids : ∀ (fs : List BitField) (n : Nat), (chunkYields fs n).map Prod.fst = chunkIds fs := by
  intro fs
  induction fs with
  | nil => exact fun _ => rfl
  | cons f fs ih =>
    intro n
    rw [chunkYields, List.map_append, ih]
    cases f <;> rfl

end Pdlv
