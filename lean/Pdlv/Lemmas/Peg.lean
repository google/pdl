/-
  Pdlv.Lemmas.Peg — invariants of the PEG interpreter (any grammar, any input): positions only move
  forward and never leave the input; the pairs produced are consecutive, properly nested, and lie
  within the span their rule consumed.
-/
import Pdlv.Peg

namespace Pdlv
namespace Peg

mutual
/-- the pair's span lies in `[lo, hi]`, is ordered, and its children are consecutive within it -/
def Pair.within : Pair → Nat → Nat → Bool
  | .mk _ s e cs, lo, hi => decide (lo ≤ s) && decide (s ≤ e) && decide (e ≤ hi) && chain cs s e
/-- consecutive pairs: each starts at or after the end of the previous one (`lo` at first), all end by `hi` -/
def chain : List Pair → Nat → Nat → Bool
  | [], lo, hi => decide (lo ≤ hi)
  | p :: ps, lo, hi => p.within lo hi && chain ps p.stop hi
end

theorem within_spec (p : Pair) (lo hi : Nat) (h : p.within lo hi = true) :
    lo ≤ p.start ∧ p.start ≤ p.stop ∧ p.stop ≤ hi ∧ chain p.children p.start p.stop = true := by
  cases p with
  | mk r s e cs =>
    simp only [Pair.within, Bool.and_eq_true, decide_eq_true_eq] at h
    exact ⟨h.1.1.1, h.1.1.2, h.1.2, h.2⟩

theorem within_mono (p : Pair) (lo hi lo' hi' : Nat) (h : p.within lo hi = true) (h1 : lo' ≤ lo) (h2 : hi ≤ hi') :
    p.within lo' hi' = true := by
  cases p with
  | mk r s e cs =>
    simp only [Pair.within, Bool.and_eq_true, decide_eq_true_eq] at h ⊢
    exact ⟨⟨⟨Nat.le_trans h1 h.1.1.1, h.1.1.2⟩, Nat.le_trans h.1.2 h2⟩, h.2⟩

theorem chain_mono (ps : List Pair) (lo hi lo' hi' : Nat) (h : chain ps lo hi = true) (h1 : lo' ≤ lo) (h2 : hi ≤ hi') :
    chain ps lo' hi' = true := by
  induction ps generalizing lo lo' with
  | nil => simp only [chain, decide_eq_true_eq] at h ⊢; exact Nat.le_trans h1 (Nat.le_trans h h2)
  | cons p ps ih =>
    simp only [chain, Bool.and_eq_true] at h ⊢
    exact ⟨within_mono p lo hi lo' hi' h.1 h1 h2, ih p.stop p.stop h.2 (Nat.le_refl _)⟩

theorem chain_le (ps : List Pair) (lo hi : Nat) (h : chain ps lo hi = true) : lo ≤ hi := by
  cases ps with
  | nil => simpa [chain] using h
  | cons p ps =>
    simp only [chain, Bool.and_eq_true] at h
    obtain ⟨h1, h2, h3, -⟩ := within_spec p lo hi h.1
    exact Nat.le_trans h1 (Nat.le_trans h2 h3)

theorem chain_append (ps qs : List Pair) (lo mid hi : Nat) (h1 : chain ps lo mid = true) (h2 : chain qs mid hi = true) :
    chain (ps ++ qs) lo hi = true := by
  induction ps generalizing lo with
  | nil =>
    simp only [chain, decide_eq_true_eq] at h1
    exact chain_mono qs mid hi lo hi h2 h1 (Nat.le_refl _)
  | cons p ps ih =>
    simp only [chain, Bool.and_eq_true, List.cons_append] at h1 ⊢
    exact ⟨within_mono p lo mid lo hi h1.1 (Nat.le_refl _) (chain_le qs mid hi h2), ih p.stop h1.2⟩

/-- what every evaluation preserves: the cursor moves forward, stays inside the input, and the pairs
    emitted so far are consecutive from `lo` up to the cursor -/
def Good (size lo : Nat) (st st' : St) : Prop :=
  st.pos ≤ st'.pos ∧ st'.pos ≤ size ∧ chain st'.pairs lo st'.pos = true

def EvalOk (size : Nat) (r : Eval) : Prop :=
  ∀ e at_ tk st st' lo, r e at_ tk st = some st' → st.pos ≤ size → chain st.pairs lo st.pos = true → Good size lo st st'

theorem good_refl (size lo : Nat) (st : St) (h1 : st.pos ≤ size) (h2 : chain st.pairs lo st.pos = true) :
    Good size lo st st := ⟨Nat.le_refl _, h1, h2⟩

theorem good_trans (size lo : Nat) (a b c : St) (h1 : Good size lo a b) (h2 : Good size lo b c) : Good size lo a c :=
  ⟨Nat.le_trans h1.1 h2.1, h2.2.1, h2.2.2⟩

theorem good_advance {size lo p : Nat} {st : St} (h1 : st.pos ≤ p) (hp : p ≤ size)
    (h2 : chain st.pairs lo st.pos = true) : Good size lo st { st with pos := p } :=
  ⟨h1, hp, chain_mono st.pairs lo st.pos lo p h2 (Nat.le_refl _) h1⟩

theorem skipLoop_ok (size : Nat) (r : Eval) (hr : EvalOk size r) (tk : Bool) (n : Nat) (st : St) (lo : Nat)
    (h1 : st.pos ≤ size) (h2 : chain st.pairs lo st.pos = true) : Good size lo st (skipLoop r tk n st) := by
  induction n generalizing st with
  | zero => exact good_refl size lo st h1 h2
  | succ n ih =>
    simp only [skipLoop]
    split
    · rename_i s1 hs1
      have g1 := hr _ _ _ _ _ lo hs1 h1 h2
      split
      · exact good_trans size lo st s1 _ g1 (ih s1 g1.2.1 g1.2.2)
      · exact good_refl size lo st h1 h2
    · split
      · rename_i s2 hs2
        have g2 := hr _ _ _ _ _ lo hs2 h1 h2
        split
        · exact good_trans size lo st s2 _ g2 (ih s2 g2.2.1 g2.2.2)
        · exact good_refl size lo st h1 h2
      · exact good_refl size lo st h1 h2

theorem skipWith_ok (size : Nat) (r : Eval) (hr : EvalOk size r) (n : Nat) (at_ : Atomicity) (tk : Bool) (st : St) (lo : Nat)
    (h1 : st.pos ≤ size) (h2 : chain st.pairs lo st.pos = true) : Good size lo st (skipWith r n at_ tk st) := by
  simp only [skipWith]
  split
  · exact good_refl size lo st h1 h2
  · exact skipLoop_ok size r hr tk _ st lo h1 h2

theorem repeatLoop_ok (size : Nat) (r : Eval) (hr : EvalOk size r) (m : Nat) (a : Expr) (at_ : Atomicity) (tk : Bool)
    (n : Nat) (st : St) (lo : Nat) (h1 : st.pos ≤ size) (h2 : chain st.pairs lo st.pos = true) :
    Good size lo st (repeatLoop r m a at_ tk n st) := by
  induction n generalizing st with
  | zero => exact good_refl size lo st h1 h2
  | succ n ih =>
    simp only [repeatLoop]
    have g1 := skipWith_ok size r hr m at_ tk st lo h1 h2
    split
    · rename_i st2 hs2
      have g2 := hr _ _ _ _ _ lo hs2 g1.2.1 g1.2.2
      split
      · exact good_trans size lo st st2 _ (good_trans size lo st _ st2 g1 g2)
          (ih st2 g2.2.1 g2.2.2)
      · exact good_refl size lo st h1 h2
    · exact good_refl size lo st h1 h2

theorem matchStr_go_le (input : Array UInt8) (s : List UInt8) (i : Nat) (h : matchStr.go input i s = true) :
    i + s.length ≤ input.size ∨ s = [] := by
  induction s generalizing i with
  | nil => exact Or.inr rfl
  | cons c cs ih =>
    simp only [matchStr.go] at h
    split at h
    · rename_i hi
      simp only [Bool.and_eq_true] at h
      rcases ih (i + 1) h.2 with h' | h'
      · left; simp only [List.length_cons]; omega
      · left; subst h'; simp only [List.length_cons, List.length_nil]; omega
    · cases h

/-- **every evaluation, at every depth, for every grammar and input** -/
theorem run_ok (g : Grammar) (input : Array UInt8) : ∀ (fuel : Nat), EvalOk input.size (run g input fuel) := by
  intro fuel
  induction fuel with
  | zero => intro e at_ tk st st' lo h; cases h
  | succ fuel ih =>
    intro e at_ tk st st' lo h h1 h2
    simp only [run] at h
    cases e with
    | str s =>
      simp only at h
      split at h
      · rename_i hm
        cases h
        refine good_advance (Nat.le_add_right ..) ?_ h2
        rcases matchStr_go_le input _ st.pos hm with h' | h'
        · exact h'
        · rw [h']; exact h1
      · cases h
    | range lo' hi' =>
      simp only at h
      split at h
      · split at h
        · cases h; exact good_advance (Nat.le_add_right ..) ‹st.pos < input.size› h2
        · cases h
      · cases h
    | any =>
      simp only at h
      split at h
      · cases h
        exact good_advance (Nat.le_min.mpr ⟨Nat.le_add_right .., h1⟩) (Nat.min_le_right ..) h2
      · cases h
    | soi | eoi =>
      simp only at h
      split at h
      · cases h; exact good_refl _ lo st h1 h2
      · cases h
    | seq a b =>
      simp only at h
      split at h
      · cases h
      · rename_i st1 hs1
        have g1 := ih _ _ _ _ _ lo hs1 h1 h2
        have g2 := skipWith_ok input.size _ ih input.size at_ tk st1 lo g1.2.1 g1.2.2
        have g3 := ih _ _ _ _ _ lo h g2.2.1 g2.2.2
        exact good_trans _ lo st _ st' (good_trans _ lo st st1 _ g1 g2) g3
    | choice a b =>
      simp only at h
      split at h
      · rename_i x hx
        cases h
        exact ih _ _ _ _ _ lo hx h1 h2
      · exact ih _ _ _ _ _ lo h h1 h2
    | opt a =>
      simp only at h
      split at h
      · rename_i x hx
        cases h
        exact ih _ _ _ _ _ lo hx h1 h2
      · cases h; exact good_refl _ lo st h1 h2
    | star a =>
      simp only at h
      split at h
      · cases h; exact good_refl _ lo st h1 h2
      · rename_i st1 hs1
        cases h
        have g1 := ih _ _ _ _ _ lo hs1 h1 h2
        exact good_trans _ lo st st1 _ g1 (repeatLoop_ok input.size _ ih input.size a at_ tk _ st1 lo g1.2.1 g1.2.2)
    | plus a =>
      simp only at h
      split at h
      · cases h
      · rename_i st1 hs1
        cases h
        have g1 := ih _ _ _ _ _ lo hs1 h1 h2
        exact good_trans _ lo st st1 _ g1 (repeatLoop_ok input.size _ ih input.size a at_ tk _ st1 lo g1.2.1 g1.2.2)
    | notP a =>
      simp only at h
      split at h
      · cases h
      · cases h; exact good_refl _ lo st h1 h2
    | andP a =>
      simp only at h
      split at h
      · cases h; exact good_refl _ lo st h1 h2
      · cases h
    | rule name =>
      simp only at h
      split at h
      · cases h
      · rename_i rl hrl
        split at h
        · cases h
        · rename_i inner hin
          obtain ⟨gi1, gi2, gi3⟩ := ih _ _ _ _ _ st.pos hin (by simpa using h1) (by simp [chain])
          split at h
          · -- a silent rule: its pairs are spliced into the enclosing level
            cases h
            exact ⟨gi1, gi2, chain_append st.pairs inner.pairs lo st.pos inner.pos h2 gi3⟩
          · split at h
            · -- a rule that produces a token: one pair over what it consumed, its pairs as children
              cases h
              refine ⟨gi1, gi2, chain_append st.pairs [_] lo st.pos inner.pos h2 ?_⟩
              simp only [chain, Pair.within, Pair.stop, Bool.and_eq_true, decide_eq_true_eq]
              exact ⟨⟨⟨⟨Nat.le_refl _, gi1⟩, Nat.le_refl _⟩, gi3⟩, by simp⟩
            · -- inside an atomic rule nothing is emitted: only the cursor moves
              cases h
              exact good_advance gi1 gi2 h2

end Peg
end Pdlv
