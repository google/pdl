/-
  Pdlv.Lemmas.CxxVals — arrays of scalars as an explicit list: what `n` reads of `w` octets return.
-/
import Pdlv.Cxx
import Pdlv.Lemmas.Dec

namespace Pdlv
namespace Cxx

/-- the first `k` scalars of `w'` bits of a byte string -/
def vals (e : Endian) (w' : Nat) : Nat → Bytes → List Value
  | 0, _ => []
  | k + 1, bs => .int (rdInt e (bs.take (w' / 8))) :: vals e w' k (bs.drop (w' / 8))

/-- the element parser of a scalar array (reference, struct parser and getter alike) -/
def scalarEl (e : Endian) (w' : Nat) : Bytes → Dec (Value × Bytes) :=
  fun bs => (getUint e w' bs).bind fun (v, r) => .ok (.int v, r)

theorem rawRead_eq (e : Endian) (w : Nat) (bs : Bytes) : rawRead e w bs = getUint e w bs := by
  unfold rawRead
  split
  · rename_i h; simp [getUint, h]
  · rfl

theorem decRepeat_vals (e : Endian) (w' : Nat) :
    ∀ (k : Nat) (bs : Bytes), k * (w' / 8) ≤ bs.length →
      decRepeat (scalarEl e w') k bs = .ok (vals e w' k bs, bs.drop (k * (w' / 8))) := fun k => by
  induction k with
  | zero => simp [decRepeat, vals]
  | succ k ih =>
    intro bs h
    rw [Nat.succ_mul] at h ⊢
    have hw : w' / 8 ≤ bs.length := Nat.le_trans (Nat.le_add_left ..) h
    have hel : scalarEl e w' bs = .ok (.int (rdInt e (bs.take (w' / 8))), bs.drop (w' / 8)) := by
      simp only [scalarEl, getUint_of_le hw, Outcome.ok_bind]
    have ih := ih (bs.drop (w' / 8)) (by rw [List.length_drop]; exact Nat.le_sub_of_add_le h)
    simp only [decRepeat, hel, Outcome.ok_bind, ih, vals, List.drop_drop, Nat.add_comm]

theorem vals_take (e : Endian) (w' : Nat) :
    ∀ (k : Nat) (bs : Bytes) (m : Nat), k * (w' / 8) ≤ m → vals e w' k (bs.take m) = vals e w' k bs := fun k => by
  induction k with
  | zero => exact fun _ _ _ => rfl
  | succ k ih =>
    intro bs m h
    rw [Nat.succ_mul] at h
    simp only [vals]
    rw [List.take_take, Nat.min_eq_left (Nat.le_trans (Nat.le_add_left ..) h)]
    congr 1
    rw [List.drop_take]
    exact ih (bs.drop (w' / 8)) (m - w' / 8) (Nat.le_sub_of_add_le h)

theorem decTy_scalar (c : Cfg) (w' : Nat) : Pdlv.decTy { e := c.e, mode := .ideal } (.scalar w') = scalarEl c.e w' := by
  funext bs
  simp [Pdlv.decTy, scalarEl]

end Cxx
end Pdlv
