/-
  Pdlv.Lemmas.Exact — decode ; encode = id on the slack-free class (C04), one construct at a time: what the
  decoder consumed is what the reference-mode encoder writes for the value returned.  The induction runs from
  the END of the field list: `Fact` says of a context entry still to be consumed by the items to come that it is
  what the encoder will recompute from the final value (the size of the array or payload it delimits, the count,
  the presence of the optional fields a flag governs); the consumers establish it, the bit-field group that bound
  the entry uses it.
-/
import Pdlv.Lemmas.RoundTrip
import Pdlv.Lemmas.List

namespace Pdlv

/-- `all`: the field list, `is`: the items still to come, `pl`: the payload length, `v`: the decoded value -/
def Fact (all is : Items) (pl : Nat) (v : Value) : Key → Nat → Prop
  | .size t, y =>
    (t = "_payload_" → ∀ m, payloadMode all = some (.sized m) → y = pl + m) ∧
    (t ≠ "_payload_" → sizeOfTarget all t pl v = .ok y)
  | .count t, y => ∃ vs, listField v t = .ok vs ∧ vs.length = y
  | .val id, y => ∀ oid cval, (id, oid, cval) ∈ optItems is → (isPresent v oid = true ↔ y = cval)
  | _, _ => True

theorem bf_exact (idealD : Bool) (all later : Items) (pl : Nat) (v : Value)
    (hpm : ∀ md, payloadMode later = some md → payloadMode all = some md)
    (f : BitField) (x : Nat) (hf : bfExact later f = true) (hx : x < 2 ^ f.width)
    (hrej : f.reject idealD x = none)
    (hval : ∀ p ∈ f.yields x, v.get? p.1 = some p.2)
    (hfact : ∀ p ∈ f.binds idealD x, Fact all later pl v p.1 p.2) :
    bfEnc true all pl v f = .ok x := by
  cases f with
  | scalar id w =>
    simp only [bfExact, decide_eq_true_eq] at hf
    exact bfEnc_scalar_ok_iff.mpr ⟨hval (id, .int x) (by simp [BitField.yields]), lt_backing hf hx, hx⟩
  | enumTy id ty e =>
    refine bfEnc_enumTy_ok_iff.mpr ⟨hval (id, .int x) (by simp [BitField.yields]), ?_⟩
    simp only [BitField.reject] at hrej
    split at hrej
    · assumption
    · cases hrej
  | fixed w c =>
    simp only [BitField.reject] at hrej
    split at hrej
    · rename_i heq; simp only [bfEnc, heq]
    · cases hrej
  | flag id opts =>
    simp only [bfExact, Bool.and_eq_true, Bool.not_eq_true', List.isEmpty_eq_false_iff, List.all_eq_true, decide_eq_true_eq,
      List.contains_iff_mem] at hf
    obtain ⟨⟨hne, hle⟩, hin⟩ := hf
    simp only [BitField.width] at hx
    have hfa := hfact (.val id, x) (by simp [BitField.binds])
    -- every field the flag governs votes for the bit that was read
    exact (bfEnc_flag_ok_iff hle).mpr ⟨hne, fun o ho =>
      (vote_eq_iff v o.1 o.2 x (hle o ho) (by omega)).mpr (hfa o.1 o.2 (hin o ho))⟩
  | size t w m =>
    simp only [BitField.width] at hx
    refine bfEnc_size_ok_iff.mpr ?_
    by_cases ht : t = "_payload_"
    · subst ht
      simp only [bfExact, BEq.rfl, ↓reduceIte, beq_iff_eq] at hf
      have hfa := (hfact (.size "_payload_", x) (by simp [BitField.binds])).1 rfl m (hpm _ hf)
      exact ⟨pl, sizeOfTarget_payload all pl v, hfa, hx⟩
    · have hb : (t == "_payload_") = false := by simpa using ht
      simp only [bfExact, hb, Bool.false_eq_true, ↓reduceIte, Bool.and_eq_true, bne_iff_ne, ne_eq, beq_iff_eq] at hf
      exact ⟨x, (hfact (.size t, x) (by simp [BitField.binds, hf.1.2])).2 ht, by omega, hx⟩
  | count t w =>
    simp only [bfExact, Bool.and_eq_true, decide_eq_true_eq] at hf
    simp only [BitField.width] at hx
    obtain ⟨vs, hvs, hlen⟩ := hfact (.count t, x) (by simp [BitField.binds])
    exact (bfEnc_count_ok_iff (by omega)).mpr ⟨vs, listField_ok_iff.mp hvs, hlen.symm, hx⟩
  | _ => simp [bfExact] at hf

/-- `n` is the chunk shifted down to the group -/
theorem chunk_exact_core (idealD : Bool) (all later : Items) (pl : Nat) (v : Value)
    (hpm : ∀ md, payloadMode later = some md → payloadMode all = some md) (fs : List BitField) (n : Nat)
    (hbf : ∀ f ∈ fs, bfExact later f = true) (hrej : chunkReject idealD fs n = none)
    (hval : ∀ p ∈ chunkYields fs n, v.get? p.1 = some p.2)
    (hfact : ∀ p ∈ chunkBinds idealD fs n, Fact all later pl v p.1 p.2) :
    packInt (bfEnc true all pl v) fs = .ok (n % 2 ^ chunkBits fs) := by
  induction fs generalizing n with
  | nil => simp [packInt, chunkBits_nil, Nat.mod_one]
  | cons f fs ih =>
    simp only [chunkReject, Option.or_eq_none_iff] at hrej
    simp only [chunkYields, chunkBinds, List.mem_append] at hval hfact
    rw [packInt, bf_exact idealD all later pl v hpm f _ (hbf f (List.mem_cons_self ..))
        (Nat.mod_lt _ (Nat.two_pow_pos _)) hrej.1 (fun p hp => hval p (Or.inl hp)) (fun p hp => hfact p (Or.inr hp)),
      ih _ (fun g hg => hbf g (List.mem_cons_of_mem _ hg)) hrej.2
        (fun p hp => hval p (Or.inr hp)) (fun p hp => hfact p (Or.inl hp)),
      chunkBits_cons, Nat.pow_add, Nat.mod_mul]
    rfl

/-- **one bit-field group, decoder to encoder**: the encoder recomputes, from the decoded value, exactly
    the bits the decoder read — value fields from the value, constants from the description, size and
    count fields from the arrays / payload they were found to delimit -/
theorem chunk_exact (idealD : Bool) (all later : Items) (pl : Nat) (v : Value)
    (hpm : ∀ md, payloadMode later = some md → payloadMode all = some md) :
    ∀ (fs : List BitField) (shift chunk acc : Nat) (st st' : DState),
      (∀ f ∈ fs, bfExact later f = true) → (chunkKeys fs).Nodup →
      decChunkFields idealD fs shift chunk st = .ok st' →
      (∀ id x, (id, x) ∈ st'.fields → v.get? id = some x) →
      (∀ k ∈ chunkKeys fs, ∀ y, st'.ctx.get k = some y → Fact all later pl v k y) →
      encChunkFields true all pl v fs shift acc =
        .ok (acc + ((chunk / 2 ^ shift) % 2 ^ (chunkBits fs)) * 2 ^ shift) := by
  intro fs shift chunk acc st st' hbf hnd hd hag hfact
  obtain ⟨hrej, rfl⟩ := (decChunkFields_ok_iff ..).mp hd
  have hkeys := chunkBinds_keys idealD fs (chunk / 2 ^ shift)
  rw [encChunkFields_eq, chunk_exact_core idealD all later pl v hpm fs (chunk / 2 ^ shift) hbf hrej
    (fun p hp => hag p.1 p.2 (List.mem_append_right _ hp)) (fun p hp => ?_), Outcome.ok_bind, Nat.mul_comm]
  -- the entry the group bound is the one the context returns: a key is bound once
  have hk : p.1 ∈ chunkKeys fs := by
    rw [← List.mem_reverse, ← hkeys]; exact List.mem_map.mpr ⟨p, hp, rfl⟩
  refine hfact p.1 hk p.2 ?_
  rw [DState.extend_get,
    List.lookup_of_mem_nodup _ p.1 p.2 (by rw [hkeys]; exact (List.reverse_perm _).nodup_iff.mpr hnd) hp]
  rfl

def ElemExact (enc : Value → Enc Bytes) (dec : Bytes → Dec (Value × Bytes)) : Prop :=
  ∀ bs x rest, dec bs = .ok (x, rest) → ∃ es, enc x = .ok es ∧ bs = es ++ rest

theorem repeat_exact (enc : Value → Enc Bytes) (dec : Bytes → Dec (Value × Bytes)) (h : ElemExact enc dec) :
    ∀ (n : Nat) (bs : Bytes) (vs : List Value) (rest : Bytes), decRepeat dec n bs = .ok (vs, rest) →
      ∃ es, encListWith enc vs = .ok es ∧ bs = es ++ rest ∧ vs.length = n := by
  intro n
  induction n with
  | zero =>
    intro bs vs rest hd
    cases hd
    exact ⟨[], rfl, rfl, rfl⟩
  | succ n ih =>
    intro bs vs rest hd
    have hlen := decRepeat_length hd
    obtain ⟨x, b1, xs, h1, h3, rfl⟩ := decRepeat_succ_ok_iff.mp hd
    obtain ⟨e1, he1, hb1⟩ := h bs x b1 h1
    obtain ⟨e2, he2, hb2, _⟩ := ih b1 xs rest h3
    exact ⟨e1 ++ e2, encListWith_cons_ok_iff.mpr ⟨e1, e2, he1, he2, rfl⟩, by rw [hb1, hb2, List.append_assoc], hlen⟩

theorem while_exact (enc : Value → Enc Bytes) (dec : Bytes → Dec (Value × Bytes)) (h : ElemExact enc dec) :
    ∀ (fuel : Nat) (bs : Bytes) (vs : List Value), decWhile dec fuel bs = .ok vs → encListWith enc vs = .ok bs := by
  intro fuel
  induction fuel with
  | zero => exact fun _ _ hd => nomatch hd
  | succ fuel ih =>
    intro bs vs hd
    rcases decWhile_succ_ok_iff.mp hd with ⟨rfl, rfl⟩ | ⟨x, b1, xs, h1, _, h3, rfl⟩
    · rfl
    · obtain ⟨e1, he1, rfl⟩ := h bs x b1 h1
      exact encListWith_cons_ok_iff.mpr ⟨e1, b1, he1, ih b1 xs h3, rfl⟩

theorem array_exact (m : Mode) (enc : Value → Enc Bytes) (dec : Bytes → Dec (Value × Bytes)) (he : ElemExact enc dec)
    (ew : ElemWidth) (shape : Shape) (cnt siz esz : Option Nat) (sp : Bytes) (vs : List Value) (rest : Bytes)
    (hew : ew ≠ .dynamic) (hst : ∀ w, ew = .static w → ∀ x b, enc x = .ok b → b.length = w)
    (h : decArray m dec ew shape cnt siz esz sp = .ok (vs, rest)) :
    ∃ es, encListWith enc vs = .ok es ∧ sp = es ++ rest ∧
      (∀ n, shape = .static n → vs.length = n) ∧
      (shape = .countField → cnt = some vs.length) ∧
      (shape = .sizeField → siz = some es.length) := by
  rw [decArray_eq_runArr] at h
  rcases arrPlan_nondyn hew (ArrPlan.isLoop_of_run_ok h) rfl with ⟨n, hp, p1, p2, p3⟩ | ⟨k, hp, hk, p1, p2, p3⟩ <;> rw [hp] at h
  · obtain ⟨es, q1, q2, q3⟩ := repeat_exact enc dec he n sp vs rest h
    refine ⟨es, q1, q2, fun k hk => q3.trans (p1 k hk), fun hc => q3 ▸ p2 hc, fun hs => ?_⟩
    obtain ⟨w, hw, hsz⟩ := p3 hs
    rw [hsz, encListWith_length_const (hst w hw) q1, q3]
  · simp only [runArr, Outcome.bind_ok_iff, Outcome.ok.injEq, Prod.mk.injEq] at h
    obtain ⟨ws, h1, rfl, rfl⟩ := h
    refine ⟨sp.take k, while_exact enc dec he _ _ _ h1, (List.take_append_drop k sp).symm,
      fun n hn => absurd hn (p1 n), fun hc => absurd hc p2, fun hs => ?_⟩
    rw [p3 hs, List.length_take_of_le hk]

/-- a key that delimits neither the array nor the payload at the head is consumed, if at all, by the later items -/
theorem consumes_cons_of_ne (i : Item) (r : Items) (k : Key)
    (ha : ∀ id el ew sh pad, i = .array id el ew sh pad → k ≠ .count id ∧ k ≠ .size id)
    (hp : ∀ m, i = .payload m → k ≠ .size "_payload_") : consumes (.cons i r) k = consumes r k := by
  cases k with
  | count t =>
    cases i with
    | array id el ew sh pad =>
      have : (id == t) = false := beq_false_of_ne fun h => (ha _ _ _ _ _ rfl).1 (h ▸ rfl)
      simp only [consumes, arrayShape, this, Bool.false_eq_true, ↓reduceIte]
    | _ => rfl
  | size t =>
    cases i with
    | array id el ew sh pad =>
      have : (id == t) = false := beq_false_of_ne fun h => (ha _ _ _ _ _ rfl).2 (h ▸ rfl)
      simp only [consumes, arrayShape, payloadMode, this, Bool.false_eq_true, ↓reduceIte]
    | payload m =>
      have : (t == "_payload_") = false := beq_false_of_ne fun h => hp m rfl (h ▸ rfl)
      simp only [consumes, arrayShape, this, Bool.false_eq_true, ↓reduceIte]
    | _ => rfl
  | _ => rfl

/-- a key bound by a field of the class is consumed by the items that follow (a `.val` key trivially) -/
theorem bfExact_consumes_one (later : Items) (f : BitField) (k : Key) (hf : bfExact later f = true)
    (hk : k ∈ chunkKeys [f]) : consumes later k = true := by
  cases f <;> simp only [chunkKeys, List.mem_singleton, List.not_mem_nil] at hk <;> subst hk
  case elemSize t w => simp [bfExact] at hf
  case count t w =>
    simp only [bfExact, Bool.and_eq_true] at hf
    simpa [consumes] using hf.2
  case size t w m =>
    simp only [bfExact] at hf
    simp only [consumes]
    split at hf
    · rename_i ht
      have : payloadMode later = some (.sized m) := by simpa using hf
      simp [ht, this]
    · rename_i ht
      simp only [Bool.and_eq_true] at hf
      simp only [ht, Bool.false_eq_true, ↓reduceIte]
      exact hf.2
  all_goals rfl

theorem bfExact_consumes (later : Items) (fs : List BitField) (k : Key) (hbf : ∀ f ∈ fs, bfExact later f = true)
    (hk : k ∈ chunkKeys fs) : consumes later k = true := by
  induction fs with
  | nil => cases hk
  | cons f fs ih =>
    rw [chunkKeys_cons] at hk
    rcases List.mem_append.mp hk with hk | hk
    · exact bfExact_consumes_one later f k (hbf f (List.mem_cons_self ..)) hk
    · exact ih (fun g hg => hbf g (List.mem_cons_of_mem _ hg)) hk

end Pdlv
