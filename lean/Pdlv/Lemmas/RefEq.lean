/-
  Pdlv.Lemmas.RefEq — the encoder model in reference mode against the bit-level wire format `Pdlv.Ref`: a bit-field
  group packs exactly the reference's bit stream, and the array table the reference derives sizes from is the one
  computed with the encoder model's element encoder.
-/
import Pdlv.Lemmas.RefBits
import Pdlv.Lemmas.ChunkEnc
import Pdlv.Lemmas.List

namespace Pdlv
open Ref

open Outcome

/-- integer leaves: `put_uint{_le}(x, w/8)` writes the reference bit stream of `x` -/
theorem intBytes_ref (e : Endian) (w x : Nat) (hw : w % 8 = 0) :
    groupBytes e (bitsOf w x) = putUint e w x := by
  have : w = 8 * (w / 8) := (Nat.mul_div_cancel' (Nat.dvd_of_mod_eq_zero hw)).symm
  rw [this]; exact groupBytes_eq_putUint e (w / 8) x

/-- an integer leaf of the reference (scalar, enumeration, custom field) has an encoding only for an integer that
    passes its check -/
theorem refTy_int_inv {ok : Nat → Bool} {g : Nat → Bytes} {x : Value} {bs : Bytes}
    (h : (match x with | .int n => if ok n then some (g n) else none | _ => none) = some bs) :
    ∃ n, x = .int n ∧ ok n = true ∧ bs = g n := by
  split at h
  · rename_i n
    split at h
    · rename_i hok; exact ⟨n, rfl, hok, (Option.some.inj h).symm⟩
    · cases h
  · cases h

theorem refItem_optional_absent {e : Endian} {arrs : List ArrInfo} {p : Bytes} {v : Value} {id cid : String}
    {ty : Ty} {cv : Nat} (h : isPresent v id = false) : Ref.encItem e arrs p v (.optional id ty cid cv) = some [] := by
  rcases isPresent_false_iff.mp h with hg | hg <;> simp only [Ref.encItem, hg]

theorem refItem_optional_present {e : Endian} {arrs : List ArrInfo} {p : Bytes} {v : Value} {id cid : String}
    {ty : Ty} {cv : Nat} {x : Value} (hx : v.get? id = some x) (hn : x ≠ .null) :
    Ref.encItem e arrs p v (.optional id ty cid cv) = Ref.encTy e ty x := by
  cases x with
  | null => exact absurd rfl hn
  | _ => simp only [Ref.encItem, hx]

/-- an array item of the reference is its entry in the array table, checked against a constant count and padded -/
theorem refItem_array_some_iff {e : Endian} {arrs : List ArrInfo} {p : Bytes} {v : Value} {id : String} {elem : Ty}
    {ew : ElemWidth} {shape : Shape} {pad : Option Nat} {a : Bytes} :
    Ref.encItem e arrs p v (.array id elem ew shape pad) = some a ↔
      ∃ ai, lookupArr arrs id = some ai ∧ (∀ k, shape = .static k → ai.count = k) ∧
        (∀ q, pad = some q → ai.bytes.length ≤ q) ∧ a = ai.bytes ++ zeros (pad.getD 0 - ai.bytes.length) := by
  simp only [Ref.encItem]
  cases lookupArr arrs id with
  | none => simp
  | some ai => cases pad <;> cases shape <;> simp [zeros, eq_comm (a := a)]

/-- the reference's array table agrees with the value and the element types of the field list -/
def ArrCorr (all : Items) (v : Value) (arrs : List ArrInfo) : Prop :=
  ∀ t elem ew, firstArray all t = some (elem, ew) →
    ∃ a vs, lookupArr arrs t = some a ∧ v.get? t = some (.arr vs) ∧ a.count = vs.length ∧
      a.elemLens = vs.map (lenTy elem) ∧ a.bytes.length = sumLen (lenTy elem) vs

theorem sumLen_eq_sum (f : Value → Nat) (vs : List Value) : sumLen f vs = (vs.map f).foldl (· + ·) 0 := by
  induction vs with
  | nil => rfl
  | cons v vs ih => simp only [sumLen, List.map_cons, List.foldl_cons]; rw [foldl_add_shift, ih]; omega

/-- the reference's consistency condition on a flag: every governed field asks for the flag's value -/
theorem flag_all_iff (v : Value) (opts : List (String × Nat)) (bit : Nat) (hv : ∀ o ∈ opts, o.2 ≤ 1)
    (hbit : bit ≤ 1) :
    opts.all (fun (k, val) => (isPresent v k) == (val == bit)) = true ↔ ∀ o ∈ opts, vote v o = bit := by
  rw [List.all_eq_true]
  refine forall_congr' fun o => forall_congr' fun ho => ?_
  have := hv o ho
  unfold vote
  cases hp : isPresent v o.1 <;> simp [hp] <;> omega

/-- the reference's condition on an element-size field: all elements of one length, which is the value -/
theorem allEq_map_iff (g : Value → Nat) (vs : List Value) (x : Nat) :
    allEq (vs.map g) = true ∧ (vs.map g).headD 0 = x ↔ (∀ y ∈ vs, g y = x) ∧ (vs = [] → x = 0) := by
  cases vs with
  | nil => simp [allEq, eq_comm]
  | cons y ys =>
    simp only [List.map_cons, allEq, List.all_eq_true, List.mem_map, beq_iff_eq, forall_exists_index, and_imp,
      forall_apply_eq_imp_iff₂, List.headD_cons, List.mem_cons, forall_eq_or_imp, reduceCtorEq, false_imp_iff, and_true]
    exact ⟨fun ⟨h, e⟩ => ⟨e, fun z hz => (h z hz).trans e⟩, fun ⟨e, h⟩ => ⟨fun z hz => (h z hz).trans e.symm, e⟩⟩

theorem bfEnc_ref (all : Items) (pl : Nat) (v : Value) (arrs : List ArrInfo) (H : ArrCorr all v arrs)
    (f : BitField) (fs : List BitField) (x : Nat) (hbf : bfOk f = true) (htg : targetOk all f = true)
    (h : bfEnc true all pl v f = .ok x) :
    chunkBitsOf arrs pl v (f :: fs) = (chunkBitsOf arrs pl v fs).map (bitsOf f.width x ++ ·) := by
  have hfit : ∀ w, f.width = w → fits w x = true := fun w hw => hw ▸ decide_eq_true (bfEnc_lt hbf h)
  cases f with
  | scalar id w => simp only [chunkBitsOf, (bfEnc_scalar_ok_iff.mp h).1, hfit w rfl, ↓reduceIte, BitField.width]
  | enumTy id ty e =>
    obtain ⟨hget, hok⟩ := bfEnc_enumTy_ok_iff.mp h
    simp only [chunkBitsOf, hget, hok, hfit e.width rfl, ↓reduceIte, BitField.width]
  | fixed w c => cases h; simp only [chunkBitsOf, hfit w rfl, ↓reduceIte, BitField.width]
  | reserved w => cases h; simp only [chunkBitsOf, hfit w rfl, ↓reduceIte, BitField.width]
  | flag id opts =>
    have hval := bfOk_flag hbf
    obtain ⟨hne, hall⟩ := (bfEnc_flag_ok_iff hval).mp h
    cases opts with
    | nil => exact absurd rfl hne
    | cons o rest =>
      have hx : (if isPresent v o.1 then o.2 else 1 - o.2) = x := hall o (List.mem_cons_self ..)
      have hx1 : x ≤ 1 := hx ▸ vote_le_one (v := v) (hval o (List.mem_cons_self ..))
      simp only [chunkBitsOf, hx, (flag_all_iff v _ x hval hx1).mpr hall, hfit 1 rfl, ↓reduceIte, BitField.width]
  | size t w m =>
    obtain ⟨s, hs, rfl, _⟩ := bfEnc_size_ok_iff.mp h
    by_cases hpay : t = "_payload_"
    · subst hpay
      cases (sizeOfTarget_payload all pl v).symm.trans hs
      simp only [chunkBitsOf, BEq.rfl, ↓reduceIte, hfit w rfl, BitField.width]
    · obtain ⟨elem, ew, vs, hfa, hget, rfl⟩ := (sizeOfTarget_array hpay (bfOk_size hbf)).mp hs
      obtain ⟨a, vs', hla, hget', _, _, hlen⟩ := H t elem ew hfa
      cases hget.symm.trans hget'
      simp only [chunkBitsOf, beq_iff_eq, hpay, ↓reduceIte, hla, hlen, hfit w rfl, BitField.width]
  | count t w =>
    obtain ⟨vs, hget, rfl, _⟩ := (bfEnc_count_ok_iff (bfOk_count hbf)).mp h
    obtain ⟨p, hfa⟩ := Option.isSome_iff_exists.mp (show (firstArray all t).isSome = true from htg)
    obtain ⟨a, vs', hla, hget', hcnt, _, _⟩ := H t p.1 p.2 hfa
    cases hget.symm.trans hget'
    simp only [chunkBitsOf, hla, hcnt, hfit w rfl, ↓reduceIte, BitField.width]
  | elemSize t w =>
    obtain ⟨vs, elem, ew, hget, hfa, hall⟩ := bfEnc_elemSize_ok_iff.mp h
    obtain ⟨a, vs', hla, hget', _, hlens, _⟩ := H t elem ew hfa
    cases hget.symm.trans hget'
    obtain ⟨h1, h2⟩ := (allEq_map_iff (lenTy elem) vs x).mpr ⟨hall.1, hall.2.1⟩
    simp only [chunkBitsOf, hla, hlens, h1, h2, hfit w rfl, ↓reduceIte, BitField.width]

/-- **the chunk encoder packs exactly the reference bit stream**: if the emitted shift/or
    computation (reference mode) succeeds with the integer `X`, the reference assigns the chunk
    the bits of a number `N` with `X = acc + 2^shift · N` -/
theorem chunk_ref (all : Items) (pl : Nat) (v : Value) (arrs : List ArrInfo) (H : ArrCorr all v arrs) :
    ∀ (fs : List BitField) (shift acc X : Nat),
      (∀ f ∈ fs, bfOk f = true ∧ targetOk all f = true) →
      encChunkFields true all pl v fs shift acc = .ok X →
      ∃ N, chunkBitsOf arrs pl v fs = some (bitsOf (chunkBits fs) N) ∧ X = acc + 2 ^ shift * N := by
  intro fs shift acc X hok h
  rw [encChunkFields_eq] at h
  obtain ⟨N, hN, hX⟩ := bind_ok_iff.mp h
  refine ⟨N, ?_, (Outcome.ok.inj hX).symm⟩
  clear h hX
  induction fs generalizing N with
  | nil => cases hN; rfl
  | cons f fs ih =>
    obtain ⟨x, N', hx, hN', rfl⟩ := packInt_cons_ok_iff.mp hN
    obtain ⟨hbf, htg⟩ := hok f (List.mem_cons_self ..)
    rw [bfEnc_ref all pl v arrs H f fs x hbf htg hx, ih (fun g hg => hok g (List.mem_cons_of_mem _ hg)) N' hN',
      Option.map_some, chunkBits_cons, bitsOf_append _ _ _ _ (bfEnc_lt hbf hx)]

/-- the reference's array table, computed with the encoder model's element encoder -/
def wireArrs (c : Cfg) : Items → Value → List ArrInfo
  | .nil, _ => []
  | .cons (.array id elem _ _ _) r, v =>
    match v.get? id with
    | some (.arr vs) =>
      match encListWith (encTy c elem) vs with
      | .ok es => { id := id, bytes := es, elemLens := vs.map (lenTy elem), count := vs.length } :: wireArrs c r v
      | _ => wireArrs c r v
    | _ => wireArrs c r v
  | .cons _ r, v => wireArrs c r v

theorem wireArrs_tail (c : Cfg) (i : Item) (r : Items) (v : Value) (x : ArrInfo) (hx : x ∈ wireArrs c r v) :
    x ∈ wireArrs c (.cons i r) v := by
  cases i with
  | array id elem ew shape pad =>
    simp only [wireArrs]
    split
    · split
      · exact List.mem_cons_of_mem _ hx
      · exact hx
    · exact hx
  | _ => exact hx

theorem wireArrs_ids_sublist (c : Cfg) (v : Value) (is : Items) :
    ((wireArrs c is v).map (·.id)).Sublist (arrayIds is) := by
  induction is using Items.induction with
  | nil => simp [wireArrs, arrayIds]
  | cons i r ih =>
    cases i with
    | array id elem ew shape pad =>
      simp only [wireArrs, arrayIds]
      split
      · split
        · simp only [List.map_cons]; exact ih.cons_cons _
        · exact ih.cons _
      · exact ih.cons _
    | _ => simpa [wireArrs, arrayIds] using ih

theorem lookupArr_of_mem (arrs : List ArrInfo) (a : ArrInfo) (hm : a ∈ arrs)
    (hn : (arrs.map (·.id)).Nodup) : lookupArr arrs a.id = some a := by
  have := List.find?_of_nodup_key (fun b : ArrInfo => some b.id) (l := arrs) (by simpa [List.filterMap_eq_map] using hn) hm rfl
  simpa [lookupArr] using this

theorem encElems_of_encListWith (W : Value → Enc Bytes) (R : Value → Option Bytes) (g : Value → Nat)
    (h : ∀ x b, W x = .ok b → R x = some b ∧ b.length = g x) :
    ∀ vs es, encListWith W vs = .ok es → encElems R vs = some (es, vs.map g) := by
  intro vs
  induction vs with
  | nil => intro es he; simp [encListWith] at he; simp [encElems, ← he]
  | cons x xs ih =>
    intro es he
    obtain ⟨a, b, ha, hb, rfl⟩ := encListWith_cons_ok_iff.mp he
    obtain ⟨r1, r2⟩ := h x a ha
    simp only [encElems, r1, ih b hb, List.map_cons, r2]

end Pdlv
