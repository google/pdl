/-
  Pdlv.Lemmas.PySerChild — the ancestors' `serialize(self, payload=…)` of the Python back end around a child's octets (sizes
  taken from the actual octets) write what the reference-mode `encAround` writes; the leaf level is in Thm/C13_spec.
-/
import Pdlv.Lemmas.PySer
import Pdlv.Thm.C05

namespace Pdlv
namespace Py

theorem around_ideal_to_py (c : Cfg) (b : Body) (v : Value) (ib bs : Bytes) (hw : serWfChain b = true) (hl : lenWfBody b = true)
    (he : Pdlv.encAround { e := c.e, mode := .ideal } b v (.ok ib) ib.length = .ok bs) : Py.encAround c b v ib = .ok bs := by
  induction b using Body.induction generalizing ib with
  | root nm items =>
    simp only [serWfChain, Bool.and_eq_true] at hw
    exact items_ideal_to_py c items ib v items bs hw.1.1 he
  | derived nm gp cs a items ih =>
    simp only [serWfChain, Bool.and_eq_true, decide_eq_true_eq] at hw
    obtain ⟨mb, hmb, he'⟩ := encAround_derived_ok _ nm gp cs a items v ib bs hl hw.1.1.2 hw.1.2 he
    simp only [lenWfBody, Bool.and_eq_true] at hl
    simp only [Py.encAround, items_ideal_to_py c items ib v items mb hw.1.1.1 hmb, Outcome.ok_bind]
    exact ih mb hw.2 hl.1.2 he'

end Py
end Pdlv
