/-
  Pdlv.Lemmas.JavaSerChild — the model of `toBytes()` the Java back end emits writes, for every value the reference-mode
  encoder accepts, exactly the bytes the reference-mode encoder writes: field by field on the class `encWfItems3` (groups of
  at most 32 bits with size / count fields, arrays of scalars and enums, payloads, struct-typed fields), and around a child
  class (own fields into a buffer, then every ancestor's `toBytes(ByteBuffer payload)` around it).  Names: `…_refE` is on
  the class `encWfItems`, `…_refE3` on `encWfItems3`.
-/
import Pdlv.Lemmas.JavaChunk
import Pdlv.Lemmas.JavaClass
import Pdlv.Thm.C05
import Pdlv.Lemmas.Layout

namespace Pdlv
namespace Java

theorem scalars_ref (en : Endian) (w : Nat) : ∀ (vs : List Value) (bs : Bytes),
    encListWith (encTy { e := en, mode := .ideal } (.scalar w)) vs = .ok bs → Java.encScalars en w vs = .ok bs := by
  intro vs
  induction vs with
  | nil => intro bs h; simpa [encListWith, Java.encScalars] using h
  | cons x r ih =>
    intro bs h
    obtain ⟨a, b, ha, hb, rfl⟩ := encListWith_cons_ok_iff.mp h
    obtain ⟨n, rfl, _, ho, rfl⟩ := encTy_scalar_ok_iff.mp ha
    -- the reference refuses an element beyond its width; below it `encode_bytes` writes the element itself
    have hlt : n < 2 ^ w := (le_maskBits_iff w n).mp (elemOutOfRange_ideal_iff.mp ho)
    simp only [Java.encScalars, if_neg (Nat.not_le.mpr hlt), ih b hb, Outcome.ok_bind, putGroup,
      Nat.mod_eq_of_lt hlt]

theorem enums_ref (en : Endian) (nm : String) (e : Enum.Decl) : ∀ (vs : List Value) (bs : Bytes),
    encListWith (encTy { e := en, mode := .ideal } (.enumTy nm e)) vs = .ok bs → Java.encEnums en e vs = .ok bs := by
  intro vs
  induction vs with
  | nil => intro bs h; simpa [encListWith, Java.encEnums] using h
  | cons x r ih =>
    intro bs h
    obtain ⟨a, b, ha, hb, rfl⟩ := encListWith_cons_ok_iff.mp h
    obtain ⟨n, rfl, hok, rfl⟩ := encTy_enumTy_ok_iff.mp ha
    have hlt := enumOk_lt e n hok
    have hg : ¬ (n ≥ 2 ^ e.width ∨ (!enumOk e n) = true) := by
      simp only [hok, Bool.not_true, Bool.false_eq_true, or_false]; omega
    simp only [Java.encEnums, if_neg hg, ih b hb, Outcome.ok_bind, putGroup, Nat.mod_eq_of_lt hlt]

theorem item_refE {en : Endian} {all : Items} {p : Bytes} {v : Value} {i : Item} (hi : EncField i) {a : Bytes}
    (ha : Pdlv.encItem { e := en, mode := .ideal } all (.ok p) p.length v i = .ok a) :
    Java.encItems en all p v (.cons i .nil) = .ok a := by
  cases hi with
  | chunk fs h1 h2 =>
    obtain ⟨X, hX, rfl⟩ := encItem_chunk_ok_iff.mp ha
    simp only [Java.encItems, Java.chunk_ref en all p.length v fs ⟨h1, h2⟩ X hX, Outcome.ok_bind, List.append_nil]
  | payload m =>
    cases ha
    simp only [Java.encItems, Outcome.ok_bind, List.append_nil]
  | scalars id w k shape h1 h2 h3 =>
    obtain ⟨vs, es, hvs, hcnt, _, hes, hpad⟩ := encItem_array_ok_iff.mp ha
    cases hpad
    simp only [Java.encItems, if_neg (not_or.mpr ⟨not_not_intro h1, not_or.mpr ⟨Nat.ne_of_gt h2, Nat.not_lt.mpr h3⟩⟩), listField_ok_iff.mpr hvs,
      checkCount_ok_iff (u := ()).mpr hcnt, Outcome.ok_bind, scalars_ref en w vs a hes, List.append_nil]
  | enums id nm e k shape h1 h2 h3 =>
    obtain ⟨vs, es, hvs, hcnt, _, hes, hpad⟩ := encItem_array_ok_iff.mp ha
    cases hpad
    simp only [Java.encItems, if_neg (not_or.mpr ⟨not_not_intro h1, not_or.mpr ⟨Nat.ne_of_gt h2, Nat.not_lt.mpr h3⟩⟩),
      listField_ok_iff.mpr hvs, checkCount_ok_iff (u := ()).mpr hcnt, Outcome.ok_bind, enums_ref en nm e vs a hes, List.append_nil]

def ItemsRef (en : Endian) (is : Items) : Prop :=
  ∀ (all : Items) (p : Bytes) (v : Value) (bs : Bytes), encWfItems3 is = true →
    Pdlv.encItems { e := en, mode := .ideal } all (.ok p) p.length v is = .ok bs → encItemsS en all p v is = .ok bs

theorem itemsS_ref (en : Endian) : ∀ (is : Items), ItemsRef en is := by
  refine Layout.induction_struct (Q := ItemsRef en) (fun _ _ _ bs _ h => by simpa [Pdlv.encItems, encItemsS] using h) ?_
  intro i r hty ihr all p v bs hw h
  obtain ⟨hi, hwr⟩ := encWfItems3_cons i r hw
  obtain ⟨a, b, ha, hb, rfl⟩ := encItems_cons_ok_iff.mp h
  have item : encItemS en all p v i = .ok a := by
    cases hi with
    | base _ hi => rw [encItemS_eq en all p v i hi]; exact item_refE hi ha
    | struct id nm snm sitems sb h1 =>
      obtain ⟨x, hx, hs⟩ := encItem_typedef_ok_iff.mp ha
      obtain ⟨p', hp', hs⟩ := encBody_root_ok_iff.mp (show Pdlv.encBody _ (.root snm sitems) x = .ok a from hs)
      simp only [encItemS, hx, encTyS, encStructS, hp']
      exact hty id nm snm sitems sb rfl sitems p' x a (encWfItems3_of_encWfItems sitems h1) hs
  simp only [encItemsS, item, ihr all p v b hwr hb, Outcome.ok_bind]

theorem items_refE3 (en : Endian) (all : Items) (p : Bytes) (v : Value) : ∀ (is : Items) (bs : Bytes),
    encWfItems3 is = true → Pdlv.encItems { e := en, mode := .ideal } all (.ok p) p.length v is = .ok bs →
      encItemsS en all p v is = .ok bs :=
  fun is bs => itemsS_ref en is all p v bs

theorem items_refE (en : Endian) (all : Items) (p : Bytes) (v : Value) : ∀ (is : Items) (bs : Bytes),
    encWfItems is = true → Pdlv.encItems { e := en, mode := .ideal } all (.ok p) p.length v is = .ok bs →
      Java.encItems en all p v is = .ok bs :=
  fun is bs hw h => encItemsS_eq en all p v is hw ▸ items_refE3 en all p v is bs (encWfItems3_of_encWfItems is hw) h

/-- a struct-typed field: `buf.put(x.toBytes())` writes the reference encoding of the struct value -/
theorem struct_ref (en : Endian) (snm : String) (sitems : Items) (hw : encWfItems sitems = true) (x : Value) (bs : Bytes)
    (h : Pdlv.encBody { e := en, mode := .ideal } (.root snm sitems) x = .ok bs) :
    encStructS en (.root snm sitems) x = .ok bs := by
  obtain ⟨p, hp, h⟩ := encBody_root_ok_iff.mp h
  simp only [encStructS, hp]
  exact items_refE3 en sitems p x sitems bs (encWfItems3_of_encWfItems sitems hw) h

theorem around_ideal_to_java (c : Cfg) : ∀ (b : Body) (v : Value) (ib bs : Bytes),
    encWfChain b = true → lenWfBody b = true →
    Pdlv.encAround { e := c.e, mode := .ideal } b v (.ok ib) ib.length = .ok bs → Java.encAround c b v ib = .ok bs := by
  intro b
  induction b using Body.induction with
  | root nm items =>
    intro v ib bs hw _ he
    simp only [encWfChain, Bool.and_eq_true] at hw
    exact items_refE c.e items ib v items bs hw.1.1 he
  | derived nm gp cs a items ih =>
    intro v ib bs hw hl he
    simp only [encWfChain, Bool.and_eq_true, decide_eq_true_eq] at hw
    obtain ⟨mb, hmb, he'⟩ := encAround_derived_ok _ nm gp cs a items v ib bs hl hw.1.1.2 hw.1.2 he
    simp only [lenWfBody, Bool.and_eq_true] at hl
    simp only [Java.encAround, items_refE c.e items ib v items mb hw.1.1.1 hmb, Outcome.ok_bind]
    exact ih v mb bs hw.2 hl.1.2 he'

end Java
end Pdlv
