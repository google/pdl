/-
  Pdlv.Lemmas.JavaArrays — the emitted Java parser (`Pdlv.Java.decItem`) against the reference, field by field: groups of
  8 / 16 / 32 bits (for any relation between the two states that survives a field's updates, `Sim`), with size / count
  fields that are masked (not a whole Java type); arrays of 8- / 16- / 32- / 64-bit elements over any element reader;
  payloads.  Same acceptance, related states: a statement named `…_sim` is in the form `SameFields R … …` for a relation
  `R` it is generic in (or an element reader it is generic in); the `…_same` ones are its instances at `RelSt` / `RelC`.
-/
import Pdlv.Lemmas.JavaChunk
import Pdlv.Lemmas.Local
import Pdlv.Lemmas.JavaClass

namespace Pdlv
namespace Java

/-- fields, payload, and the size / count entries of the context agree (the reference also records the value of every
    scalar, for condition flags the Java class does not have) -/
def RelC (a b : DState) : Prop :=
  a.fields = b.fields ∧ a.payload = b.payload ∧
  (∀ t, a.ctx.get (.size t) = b.ctx.get (.size t)) ∧ (∀ t, a.ctx.get (.count t) = b.ctx.get (.count t))

/-- what the field-by-field argument needs of a relation between the state of the emitted parser and the reference's: it
    survives the two kinds of update a bit-field makes (the reference alone records scalar values in the context) -/
structure Sim (R : DState → DState → Prop) : Prop where
  val : ∀ {a b : DState} (id : String) (v : Value) (x : Nat), R a b →
    R { a with fields := a.fields ++ [(id, v)] } { b with ctx := (.val id, x) :: b.ctx, fields := b.fields ++ [(id, v)] }
  key : ∀ {a b : DState} (k : Key) (x : Nat), R a b → R { a with ctx := (k, x) :: a.ctx } { b with ctx := (k, x) :: b.ctx }

theorem sim_relSt : Sim RelSt :=
  ⟨fun _ _ _ h => ⟨by simp [h.1], h.2⟩, fun _ _ h => h⟩

theorem sim_relC : Sim RelC := by
  refine ⟨fun id v x h => ⟨by simp [h.1], h.2.1, fun t => ?_, fun t => ?_⟩,
    fun k x h => ⟨h.1, h.2.1, fun t => ?_, fun t => ?_⟩⟩
  · simp only [Ctx.get_cons, reduceCtorEq, ↓reduceIte]; exact h.2.2.1 t
  · simp only [Ctx.get_cons, reduceCtorEq, ↓reduceIte]; exact h.2.2.2 t
  · simp only [Ctx.get_cons, h.2.2.1 t]
  · simp only [Ctx.get_cons, h.2.2.2 t]

/-- a masked field narrower than its Java type is non-negative: widening it to `int` changes nothing -/
theorem signExtend_masked (W chunk off w : Nat) (hW : W = 8 ∨ W = 16 ∨ W = 32) (hc : chunk < 2 ^ W) (hw : 0 < w)
    (hfit : off + w ≤ W) (hnar : w < (fitting w).bits) (h31 : w ≤ 31) :
    signExtend (maskField (fitting W) chunk off w) = (chunk / 2 ^ off) % 2 ^ w := by
  have hbitsW : (fitting W).bits = W := by
    rcases hW with h | h | h <;> subst h <;> rfl
  have hraw : ¬ (off = 0 ∧ (fitting W).bits = w) := by
    intro ⟨_, h2⟩
    rw [hbitsW] at h2
    subst h2
    rw [hbitsW] at hnar
    omega
  obtain ⟨hv, hty⟩ := mask_masked W chunk off w hW hc hw hfit hraw
  have hlt : (chunk / 2 ^ off) % 2 ^ w < 2 ^ w := Nat.mod_lt _ (Nat.two_pow_pos w)
  have h32 : (chunk / 2 ^ off) % 2 ^ w < 2 ^ 32 :=
    Nat.lt_of_lt_of_le hlt (Nat.pow_le_pow_right (by decide) (Nat.le_succ_of_le h31))
  have hnn : ¬ (chunk / 2 ^ off) % 2 ^ w ≥ 2 ^ ((fitting w).bits - 1) :=
    Nat.not_le.mpr (Nat.lt_of_lt_of_le hlt (Nat.pow_le_pow_right (by decide) (Nat.le_sub_one_of_lt hnar)))
  simp only [signExtend, hty, hv, Nat.mod_eq_of_lt h32, hnn, ↓reduceIte, ite_self]

/-- the emitted parser and the reference make the same decisions on the same extracted bits, so any `Sim` relation
    between their states is kept -/
theorem fields_sim {R : DState → DState → Prop} (hR : Sim R) (W chunk : Nat) (hW : W = 8 ∨ W = 16 ∨ W = 32)
    (hc : chunk < 2 ^ W) :
    ∀ (fs : List BitField) (off : Nat) (sj sr : DState), fs.all bfOkD = true → off + chunkBits fs ≤ W → R sj sr →
      SameFields R (decFields (fitting W) chunk fs off sj) (Pdlv.decChunkFields true fs off chunk sr) := by
  intro fs
  induction fs with
  | nil => intro off sj sr _ _ hf; exact SameFields.ok hf
  | cons f fs ih =>
    intro off sj sr hw hfit hf
    simp only [List.all_cons, Bool.and_eq_true] at hw
    rw [chunkBits_cons] at hfit
    have hfw : off + f.width ≤ W := by omega
    replace ih := fun sj' sr' h' => ih (off + f.width) sj' sr' hw.2 (by omega) h'
    unfold decFields Pdlv.decChunkFields
    cases f with
    | scalar id w =>
      simp only [bfOkD, bfOkJ, Bool.and_eq_true, decide_eq_true_eq] at hw
      simp only [BitField.width] at hfw ih ⊢
      simp only [mask_exact W chunk off w hW hc hw.1.1 hfw]
      exact ih _ _ (hR.val id _ _ hf)
    | enumTy id ty e =>
      simp only [bfOkD, bfOkJ, Bool.and_eq_true, decide_eq_true_eq] at hw
      simp only [BitField.width] at hfw ih ⊢
      simp only [mask_exact W chunk off e.width hW hc hw.1.1 hfw]
      exact SameFields.ite (fun _ => ih _ _ (hR.val id _ _ hf)) (fun _ => SameFields.fail rfl rfl)
    | fixed w c =>
      simp only [bfOkD, bfOkJ, Bool.and_eq_true, decide_eq_true_eq] at hw
      simp only [BitField.width] at hfw ih ⊢
      simp only [mask_exact W chunk off w hW hc hw.1.1.1 hfw]
      exact SameFields.ite (fun _ => ih _ _ hf) (fun _ => SameFields.fail rfl rfl)
    | reserved w => exact ih _ _ hf
    | size t w m =>
      -- no modifier in the class: the reference's two ways of recording the size coincide
      simp only [bfOkD, Bool.and_eq_true, decide_eq_true_eq, beq_iff_eq] at hw
      obtain ⟨⟨⟨⟨hpos, hnar⟩, h31⟩, rfl⟩, _⟩ := hw
      simp only [BitField.width] at hfw ih ⊢
      have hlt : (chunk / 2 ^ off) % 2 ^ w < 2 ^ 32 :=
        Nat.lt_of_lt_of_le (Nat.mod_lt _ (Nat.two_pow_pos w)) (Nat.pow_le_pow_right (by decide) (Nat.le_succ_of_le h31))
      have hsz : ((chunk / 2 ^ off) % 2 ^ w + 2 ^ 32 - 0 % 2 ^ 32) % 2 ^ 32 = (chunk / 2 ^ off) % 2 ^ w := by
        rw [Nat.zero_mod, Nat.sub_zero, Nat.add_mod_right, Nat.mod_eq_of_lt hlt]
      simp only [Nat.not_lt.mpr (Nat.le_succ_of_le h31), ↓reduceIte, signExtend_masked W chunk off w hW hc hpos hfw hnar h31,
        hsz, Nat.sub_zero, Nat.not_lt_zero, ite_self]
      exact ih _ _ (hR.key _ _ hf)
    | count t w =>
      simp only [bfOkD, Bool.and_eq_true, decide_eq_true_eq] at hw
      obtain ⟨⟨⟨hpos, hnar⟩, h31⟩, _⟩ := hw
      simp only [BitField.width] at hfw ih ⊢
      simp only [Nat.not_lt.mpr (Nat.le_succ_of_le h31), ↓reduceIte, signExtend_masked W chunk off w hW hc hpos hfw hnar h31]
      exact ih _ _ (hR.key _ _ hf)
    | flag _ _ | elemSize _ _ => cases (show false = true from hw.1)

abbrev RelP (a : DState × Bytes) (b : DState × Bytes) : Prop := RelC a.1 b.1 ∧ a.2 = b.2

/-- the widths `ByteBuffer` has a `get…` for: whole octets, at most eight of them -/
theorem width_octets {w : Nat} (hw : w = 8 ∨ w = 16 ∨ w = 32 ∨ w = 64) :
    w % 8 = 0 ∧ 0 < w / 8 ∧ w / 8 ≤ 8 ∧ 8 * (w / 8) = w ∧ w ≤ 64 := by
  rcases hw with rfl | rfl | rfl | rfl <;> decide

/-- `get` / `getShort` / `getInt` / `getLong` read what the reference reads, and it fits the width -/
theorem getGroup_eq (en : Endian) (w : Nat) (bs : Bytes) (hw : w = 8 ∨ w = 16 ∨ w = 32 ∨ w = 64) (hle : w / 8 ≤ bs.length) :
    getGroup en w (bs.take (w / 8)) = rdInt en (bs.take (w / 8)) ∧ rdInt en (bs.take (w / 8)) < 2 ^ w := by
  have hnot : ¬ (w = 24 ∨ w = 40 ∨ w = 48 ∨ w = 56) := by rcases hw with rfl | rfl | rfl | rfl <;> decide
  refine ⟨?_, (rdInt_exact en w (width_octets hw).1 bs hle).1⟩
  cases en <;> simp only [getGroup, hnot, ↓reduceIte, rdInt]

theorem chunk_sim {R : DState → DState → Prop} (hR : Sim R) (en : Endian) (fs : List BitField) (hw : fs.all bfOkD = true)
    (hW : chunkBits fs = 8 ∨ chunkBits fs = 16 ∨ chunkBits fs = 32) (bs : Bytes) (sj sr : DState) (hr : R sj sr) :
    SameFields (fun a b => R a.1 b.1 ∧ a.2 = b.2) (Java.decChunk en fs bs sj) (Pdlv.decChunk en true fs bs sr) := by
  have hW4 := hW.imp_right (Or.imp_right (Or.inl (b := chunkBits fs = 64)))
  obtain ⟨_, _, _, _, h64⟩  := width_octets hW4
  simp only [Java.decChunk, Pdlv.decChunk, Nat.not_lt.mpr h64, ↓reduceIte]
  split
  · exact SameFields.fail rfl rfl
  · rename_i hl
    obtain ⟨hg, hlt⟩ := getGroup_eq en (chunkBits fs) bs hW4 (Nat.not_lt.mp hl)
    rw [hg]
    exact (fields_sim hR _ _ hW hlt fs 0 sj sr hw (Nat.le_of_eq (Nat.zero_add _)) hr).bind fun _ _ _ _ h => SameFields.ok ⟨h, rfl⟩

theorem bfOkD_of_bfOkJ (f : BitField) (h : bfOkJ f = true) : bfOkD f = true := by
  cases f <;> first | exact h | simp [bfOkJ] at h

/-- `fromBytes(byte[])` after the fields: the object, unless octets are left over -/
theorem finish_sim {p q : Dec (DState × Bytes)} (h : SameFields (fun a b => RelSt a.1 b.1 ∧ a.2 = b.2) p q) :
    SameFields Eq
      (p.bind fun (st, r) =>
        if r.isEmpty then .ok st.value else .err .trailingBytes)
      ((q.bind fun (st, r) => .ok (st.value, r)).bind fun (v, r) =>
        if r.isEmpty then .ok v else .err .trailingBytes) := by
  rw [Outcome.bind_bind]
  refine h.bind fun a b _ _ hab => ?_
  obtain ⟨sa, ra⟩ := a
  obtain ⟨sb, rb⟩ := b
  obtain ⟨hst, rfl⟩ : RelSt sa sb ∧ ra = rb := hab
  simp only [Outcome.ok_bind, DState.value, hst.1, hst.2]
  exact SameFields.refl

/-! ### groups only (`decWfItems`): no context entry is read, so fields and payload are all the relation has to keep -/

theorem items_same (en : Endian) : ∀ (is : Items), decWfItems is = true → ∀ (bs : Bytes) (sj sr : DState), RelSt sj sr →
    SameFields (fun a b => RelSt a.1 b.1 ∧ a.2 = b.2) (Java.decItems en is bs sj)
      (Pdlv.decItems { e := en, mode := .ideal } is bs sr) := by
  intro is
  induction is using Items.induction with
  | nil => exact fun _ bs sj sr hr => SameFields.ok ⟨hr, rfl⟩
  | cons i r ih =>
    intro hw bs sj sr hr
    cases i with
    | chunk fs =>
      simp only [decWfItems, chunkWf, Bool.and_eq_true, Bool.or_eq_true, beq_iff_eq, List.all_eq_true, or_assoc] at hw
      obtain ⟨⟨⟨hcw, _⟩, hW⟩, hwr⟩ := hw
      simp only [Java.decItems, Java.decItem, Pdlv.decItems_cons, Pdlv.decItem, BEq.rfl]
      exact (chunk_sim sim_relSt en fs (List.all_eq_true.mpr fun f hf => bfOkD_of_bfOkJ f (hcw f hf)) hW bs sj sr hr).bind
        fun a b _ _ h => h.2 ▸ ih hwr a.2 a.1 b.1 h.1
    | _ => simp [decWfItems] at hw

/-- the element count of an array as `fromBytes` computes it: sizes and counts are Java `int`s -/
def arrCount (eb : Nat) (shape : Shape) (cnt siz : Option Nat) (len : Nat) : Dec Nat :=
  match shape with
  | .static n => .ok n
  | .countField => (match cnt.bind nonNeg with | some n => .ok n | none => .err .length)
  | .sizeField =>
    (match siz.bind nonNeg with
     | some sz => if sz % eb ≠ 0 then .err .arraySize else .ok (sz / eb)
     | none => .err .length)
  | .unknown => if len % eb ≠ 0 then .err .arraySize else .ok (len / eb)

/-- `n` reads that run into the end of the buffer fail; the reference tests `n * eb` octets first.  The same on success. -/
theorem repeat_guard (el : Bytes → Dec (Value × Bytes)) (eb : Nat) (hel : Reads el eb) (n tot : Nat) (ht : tot = n * eb)
    (bs : Bytes) :
    SameFields Eq (decRepeat el n bs) (if bs.length < tot then .err .length else decRepeat el n bs) := by
  subst ht
  split
  · refine ⟨fun a ha => ?_, fun b hb => by cases hb⟩
    have := (decRepeat_reads el eb hel n).exact bs a.1 a.2 ha
    omega
  · exact SameFields.refl

/-- the array cases of the emitted parser, for the `n` reads `jrep` of the emitted code and the element parser `el` of the
    reference: all that is needed of them is that `jrep n` succeeds as `n` times `el` does, and that `el` reads `eb` octets -/
theorem array_sim (jrep : Nat → Bytes → Dec (List Value × Bytes)) (el : Bytes → Dec (Value × Bytes)) (eb : Nat)
    (hrep : ∀ n bs, SameFields Eq (jrep n bs) (decRepeat el n bs)) (hel : Reads el eb) (hpos : 0 < eb) (h8 : eb ≤ 8)
    (shape : Shape) (cnt siz esz : Option Nat) (bs : Bytes) (hb : bs.length < 2 ^ 31) :
    SameFields Eq ((arrCount eb shape cnt siz bs.length).bind fun n => jrep n bs)
      (decArray .ideal el (.static eb) shape cnt siz esz bs) := by
  have hu : (2 : Nat) ^ 31 * 8 < usizeMax := by decide
  have hw0 : ¬ eb = 0 := by omega
  have guard := fun n tot ht => (hrep n bs).trans (repeat_guard el eb hel n tot ht bs)
  cases shape with
  | static n =>
    -- `n` reads return `n` elements: the reference's `unwrap` of the collected array cannot fail (`decRepeat_unwrap`)
    simp only [arrCount, Outcome.ok_bind, decArray,
      decRepeat_unwrap]
    exact guard n _ rfl
  | countField =>
    cases cnt with
    | none => exact SameFields.fail rfl rfl
    | some x =>
      simp only [arrCount, Option.bind_some, nonNeg, decArray, umulM]
      have hx : x ≤ x * eb := Nat.le_mul_of_pos_right x hpos
      by_cases hn : x < 2 ^ 31
      · have : x * eb < usizeMax := Nat.lt_of_le_of_lt (Nat.mul_le_mul (Nat.le_of_lt hn) h8) hu
        simp only [hn, ↓reduceIte, Outcome.ok_bind, this]
        exact guard x _ rfl
      · -- a negative `int`: `fromBytes` throws; the reference asks for more octets than a `byte[]` holds
        simp only [hn, ↓reduceIte, Outcome.err_bind]
        refine SameFields.fail rfl ?_
        by_cases hm : x * eb < usizeMax
        · simp only [hm, ↓reduceIte, Outcome.ok_bind]; rw [if_pos (by omega)]; rfl
        · simp only [hm, ↓reduceIte]; rfl
  | sizeField =>
    cases siz with
    | none => exact SameFields.fail rfl rfl
    | some x =>
      simp only [arrCount, Option.bind_some, nonNeg, decArray, hw0, ↓reduceIte]
      by_cases hn : x < 2 ^ 31
      · simp only [hn, ↓reduceIte]
        by_cases hm : x % eb = 0
        · simp only [hm, ne_eq, not_true_eq_false, ↓reduceIte, Outcome.ok_bind]
          exact guard (x / eb) x (Nat.div_mul_cancel (Nat.dvd_of_mod_eq_zero hm)).symm
        · simp only [hm, ne_eq, not_false_eq_true, ↓reduceIte, Outcome.err_bind]
          exact SameFields.fail rfl (by split <;> rfl)
      · simp only [hn, ↓reduceIte, Outcome.err_bind]
        exact SameFields.fail rfl (by rw [if_pos (by omega)]; rfl)
  | unknown =>
    simp only [arrCount, decArray, hw0, ↓reduceIte]
    by_cases hm : bs.length % eb = 0
    · simp only [hm, ne_eq, not_true_eq_false, ↓reduceIte, Outcome.ok_bind]; exact hrep _ bs
    · simp only [hm, ne_eq, not_false_eq_true, ↓reduceIte, Outcome.err_bind]; exact SameFields.fail rfl rfl

theorem relC_field (sj sr : DState) (h : RelC sj sr) (id : String) (v : Value) :
    RelC { sj with fields := sj.fields ++ [(id, v)] } { sr with fields := sr.fields ++ [(id, v)] } :=
  ⟨by simp [h.1], h.2.1, h.2.2.1, h.2.2.2⟩

theorem array_item_sim {en : Endian} (id : String) {elem : Ty} {eb : Nat} (shape : Shape)
    {jrep : Nat → Bytes → Dec (List Value × Bytes)}
    (hrep : ∀ n bs, SameFields Eq (jrep n bs) (decRepeat (Pdlv.decTy { e := en, mode := .ideal } elem) n bs))
    (hel : Reads (Pdlv.decTy { e := en, mode := .ideal } elem) eb) (hpos : 0 < eb) (h8 : eb ≤ 8)
    {bs : Bytes} (hb : bs.length < 2 ^ 31) {sj sr : DState} (hr : RelC sj sr) :
    SameFields RelP
      ((arrCount eb shape (sj.ctx.get (.count id)) (sj.ctx.get (.size id)) bs.length).bind fun n =>
        (jrep n bs).bind fun (vs, r') => .ok ({ sj with fields := sj.fields ++ [(id, Value.arr vs)] }, r'))
      (Pdlv.decItem { e := en, mode := .ideal } (.array id elem (.static eb) shape none) bs sr) := by
  rw [← Outcome.bind_bind, decItem_array_eq, ← hr.2.2.1 id, ← hr.2.2.2 id]
  exact (array_sim jrep _ eb hrep hel hpos h8 shape _ _ (sr.ctx.get (.esize id)) bs hb).bind
    fun ⟨vs, r⟩ _ _ _ e => by subst e; exact SameFields.ok (And.intro (relC_field sj sr hr id _) rfl)

/-- `n` element reads (`decode_bytes(width)`; `BufferUnderflowException` when the buffer ends) are the reference's -/
theorem decScalars_repeat (en : Endian) (w : Nat) (hw : w = 8 ∨ w = 16 ∨ w = 32 ∨ w = 64) :
    ∀ (n : Nat) (bs : Bytes),
      SameFields Eq (decScalars en w n bs) (decRepeat (Pdlv.decTy { e := en, mode := .ideal } (.scalar w)) n bs) := by
  intro n
  induction n with
  | zero => exact fun _ => SameFields.refl
  | succ n ih =>
    intro bs
    by_cases hl : bs.length < w / 8
    · simp only [decScalars, hl, ↓reduceIte, decRepeat, Pdlv.decTy, getUint_short hl]
      exact SameFields.fail rfl rfl
    · obtain ⟨hg, hlt⟩ := getGroup_eq en w bs hw (Nat.not_lt.mp hl)
      simp only [decScalars, hl, ↓reduceIte, decRepeat, Pdlv.decTy, getUint_of_le (Nat.not_lt.mp hl), Outcome.ok_bind, hg,
        Nat.mod_eq_of_lt hlt]
      exact (ih _).bind fun ⟨vs, r⟩ _ _ _ e => by subst e; exact SameFields.refl

/-- the same with the enum's `fromX` per element, which throws for a value a closed enum does not declare -/
theorem decEnums_repeat (en : Endian) (nm : String) (e : Enum.Decl)
    (hw : e.width = 8 ∨ e.width = 16 ∨ e.width = 32 ∨ e.width = 64) :
    ∀ (n : Nat) (bs : Bytes),
      SameFields Eq (decEnums en e n bs) (decRepeat (Pdlv.decTy { e := en, mode := .ideal } (.enumTy nm e)) n bs) := by
  intro n
  induction n with
  | zero => exact fun _ => SameFields.refl
  | succ n ih =>
    intro bs
    by_cases hl : bs.length < e.width / 8
    · simp only [decEnums, hl, ↓reduceIte, decRepeat, Pdlv.decTy, getUint_short hl]
      exact SameFields.fail rfl rfl
    · obtain ⟨hg, hlt⟩ := getGroup_eq en e.width bs hw (Nat.not_lt.mp hl)
      simp only [decEnums, hl, ↓reduceIte, decRepeat, Pdlv.decTy, getUint_of_le (Nat.not_lt.mp hl), Outcome.ok_bind, hg,
        Nat.mod_eq_of_lt hlt]
      cases enumOk e (rdInt en (bs.take (e.width / 8)))
      · exact SameFields.fail rfl rfl
      · exact (ih _).bind fun ⟨vs, r⟩ _ _ _ e => by subst e; exact SameFields.refl

/-- the guard `fromBytes` puts before an array (whole octets, at most eight) passes -/
theorem width_guard {w : Nat} (hw : w = 8 ∨ w = 16 ∨ w = 32 ∨ w = 64) : ¬ (w % 8 ≠ 0 ∨ w = 0 ∨ w > 64) := by
  rcases hw with rfl | rfl | rfl | rfl <;> decide

/-- an array of scalars in `fromBytes`: the element count, then that many reads -/
theorem decItem_scalars_eq (en : Endian) (id : String) (w eb : Nat) (shape : Shape) (bs : Bytes) (st : DState)
    (hw : w = 8 ∨ w = 16 ∨ w = 32 ∨ w = 64) :
    Java.decItem en (.array id (.scalar w) (.static eb) shape none) bs st =
      (arrCount (w / 8) shape (st.ctx.get (.count id)) (st.ctx.get (.size id)) bs.length).bind fun n =>
        (decScalars en w n bs).bind fun (vs, r') => .ok ({ st with fields := st.fields ++ [(id, Value.arr vs)] }, r') := by
  simp only [Java.decItem, width_guard hw, ↓reduceIte]
  rfl

theorem decItem_enums_eq (en : Endian) (id nm : String) (e : Enum.Decl) (eb : Nat) (shape : Shape) (bs : Bytes) (st : DState)
    (hw : e.width = 8 ∨ e.width = 16 ∨ e.width = 32 ∨ e.width = 64) :
    Java.decItem en (.array id (.enumTy nm e) (.static eb) shape none) bs st =
      (arrCount (e.width / 8) shape (st.ctx.get (.count id)) (st.ctx.get (.size id)) bs.length).bind fun n =>
        (decEnums en e n bs).bind fun (vs, r') => .ok ({ st with fields := st.fields ++ [(id, Value.arr vs)] }, r') := by
  simp only [Java.decItem, width_guard hw, ↓reduceIte]
  rfl

theorem array_same2 (en : Endian) (id : String) (w : Nat) (shape : Shape) (hw : w = 8 ∨ w = 16 ∨ w = 32 ∨ w = 64)
    (bs : Bytes) (hb : bs.length < 2 ^ 31) (sj sr : DState) (hr : RelC sj sr) :
    SameFields RelP (Java.decItem en (.array id (.scalar w) (.static (w / 8)) shape none) bs sj)
      (Pdlv.decItem { e := en, mode := .ideal } (.array id (.scalar w) (.static (w / 8)) shape none) bs sr) := by
  obtain ⟨_, hpos, hle, _, _⟩ := width_octets hw
  rw [decItem_scalars_eq en id w _ shape bs sj hw]
  exact array_item_sim id shape (decScalars_repeat en w hw) (decTy_reads _ _ _ rfl rfl) hpos hle hb hr

theorem enum_array_same2 (en : Endian) (id nm : String) (e : Enum.Decl) (shape : Shape)
    (hw : e.width = 8 ∨ e.width = 16 ∨ e.width = 32 ∨ e.width = 64)
    (bs : Bytes) (hb : bs.length < 2 ^ 31) (sj sr : DState) (hr : RelC sj sr) :
    SameFields RelP (Java.decItem en (.array id (.enumTy nm e) (.static (e.width / 8)) shape none) bs sj)
      (Pdlv.decItem { e := en, mode := .ideal } (.array id (.enumTy nm e) (.static (e.width / 8)) shape none) bs sr) := by
  obtain ⟨_, hpos, hle, _, _⟩ := width_octets hw
  rw [decItem_enums_eq en id nm e _ shape bs sj hw]
  exact array_item_sim id shape (decEnums_repeat en nm e hw) (decTy_reads _ _ _ rfl rfl) hpos hle hb hr

theorem payload_same2 (en : Endian) (mode : PayloadMode)
    (hm : (match mode with | .undelimited => false | .sized m => m == 0 | _ => true) = true)
    (bs : Bytes) (hb : bs.length < 2 ^ 31) (sj sr : DState) (hr : RelC sj sr) :
    SameFields RelP (Java.decItem en (.payload mode) bs sj) (Pdlv.decItem { e := en, mode := .ideal } (.payload mode) bs sr) := by
  cases mode with
  | sized m =>
    obtain rfl : m = 0 := by simpa using hm
    simp only [Java.decItem, Pdlv.decItem, ← hr.2.2.1 "_payload_"]
    cases sj.ctx.get (.size "_payload_") with
    | none => exact SameFields.fail rfl rfl
    | some x =>
      simp only [Option.bind_some, nonNeg, Nat.not_lt_zero, ↓reduceIte, Nat.sub_zero]
      by_cases hn : x < 2 ^ 31
      · simp only [hn, ↓reduceIte]
        exact SameFields.ite (fun _ => SameFields.fail rfl rfl) fun _ => SameFields.ok ⟨⟨hr.1, rfl, hr.2.2.1, hr.2.2.2⟩, rfl⟩
      · simp only [hn, ↓reduceIte]
        exact SameFields.fail rfl (by rw [if_pos (by omega)]; rfl)
  | last => exact SameFields.ok ⟨⟨hr.1, rfl, hr.2.2.1, hr.2.2.2⟩, rfl⟩
  | beforeStatic k =>
    simp only [Java.decItem, Pdlv.decItem]
    exact SameFields.ite (fun _ => SameFields.fail rfl rfl) fun _ => SameFields.ok ⟨⟨hr.1, rfl, hr.2.2.1, hr.2.2.2⟩, rfl⟩
  | undelimited => simp at hm

theorem item_same2 (en : Endian) (i : Item) (hi : DecField2 i) (bs : Bytes) (hb : bs.length < 2 ^ 31) (sj sr : DState)
    (hr : RelC sj sr) :
    SameFields RelP (Java.decItem en i bs sj) (Pdlv.decItem { e := en, mode := .ideal } i bs sr) := by
  cases hi with
  | chunk fs h1 h2 => simpa [Java.decItem, Pdlv.decItem] using chunk_sim sim_relC en fs h1 h2 bs sj sr hr
  | payload mode h => exact payload_same2 en mode h bs hb sj sr hr
  | scalars id w shape h => exact array_same2 en id w shape h bs hb sj sr hr
  | enums id nm e shape h => exact enum_array_same2 en id nm e shape h bs hb sj sr hr

end Java
end Pdlv
