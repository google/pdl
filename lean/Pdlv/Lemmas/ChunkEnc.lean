/-
  Pdlv.Lemmas.ChunkEnc — one bit-field group of the encoder, field by field.

  `encChunkFields` threads a shift and an accumulator through the eight kinds of field.  Here it is
  split into what one field contributes (`bfEnc`: its value and the checks made on it) and the
  packing of a list of such values (`packInt`), which mentions neither shift nor accumulator:
  `encChunkFields_eq`.  Every statement about a group then is a statement about one field plus a
  fact about `packInt`.
-/
import Pdlv.Static
import Pdlv.Lemmas.Enc
import Pdlv.Lemmas.Items
import Pdlv.Lemmas.Chunk

namespace Pdlv
open Outcome

/-- the value one bit-field contributes to its group, with the checks the emitted code makes on
    it: the arms of `encChunkFields` without their continuation -/
def bfEnc (ideal : Bool) (items : Items) (pl : Nat) (v : Value) : BitField → Enc Nat
  | .scalar id w =>
    (natField v id).bind fun x =>
      if x ≥ 2 ^ backingOf w then .panic .badValue
      else if backingOf w > w ∧ x > maskBits w then .err .invalidScalarValue
      else .ok x
  | .flag _ opts =>
    match opts with
    | [] => .panic .badLayout
    | (o, setv) :: _ =>
      if opts.length ≥ 2 ∧ (opts.any fun (k, val) => if val = 1 then !isPresent v k else isPresent v k) ∧
          (opts.any fun (k, val) => if val = 1 then isPresent v k else !isPresent v k)
      then .err .inconsistentConditionValue
      else .ok (if isPresent v o then setv else 1 - setv)
  | .enumTy id _ e => (natField v id).bind fun x => if enumOk e x then .ok x else .panic .badValue
  | .fixed _ c => .ok c
  | .reserved _ => .ok 0
  | .size t w m =>
    (sizeOfTarget items t pl v).bind fun s =>
      let s := if ideal || t == "_payload_" || t == "_body_" then s + m else s
      if s > maskBits w then .err .sizeOverflow else .ok s
  | .elemSize t w =>
    (listField v t).bind fun vs =>
      match encChunkFields.elemTy t items with
      | none => .panic .badLayout
      | some ty =>
        let es := match vs with | [] => 0 | x :: _ => lenTy ty x
        if vs.any (fun x => lenTy ty x != es) then .err .invalidArrayElementSize
        else if es > maskBits w then .err .sizeOverflow
        else .ok es
  | .count t w =>
    (listField v t).bind fun vs =>
      if (ideal ∨ w < 64) ∧ vs.length > maskBits w then .err .countOverflow
      else .ok (vs.length % 2 ^ backingOf w)

/-- the group integer of a list of fields whose values `val` computes: first field lowest -/
def packInt (val : BitField → Enc Nat) : List BitField → Enc Nat
  | [] => .ok 0
  | f :: fs => (val f).bind fun x => (packInt val fs).bind fun N => .ok (x + 2 ^ f.width * N)

theorem encChunkFields_cons (ideal : Bool) (items : Items) (pl : Nat) (v : Value) (f : BitField)
    (fs : List BitField) (shift acc : Nat) :
    encChunkFields ideal items pl v (f :: fs) shift acc =
      (bfEnc ideal items pl v f).bind fun x =>
        encChunkFields ideal items pl v fs (shift + f.width) (acc + x * 2 ^ shift) := by
  cases f with
  | flag id opts => cases opts with
    | nil => rfl
    | cons o r => simp only [encChunkFields, bfEnc, ite_bind]; rfl
  | elemSize t w =>
    simp only [encChunkFields, bfEnc, bind_bind]
    congr 1; funext vs
    cases encChunkFields.elemTy t items with
    | none => rfl
    | some ty => simp only [ite_bind]; rfl
  | _ => simp only [encChunkFields, bfEnc, bind_bind, ite_bind] <;> rfl

theorem packInt_shift (acc x s w N : Nat) : acc + x * 2 ^ s + 2 ^ (s + w) * N = acc + 2 ^ s * (x + 2 ^ w * N) := by
  rw [Nat.pow_add, Nat.mul_add, Nat.mul_assoc, Nat.mul_comm x]; omega

/-- a group encoder that handles one field and goes on with shift and accumulator is `packInt` of its field
    values, failures included: they occur in field order on both sides (the Rust model's `encChunkFields`, the
    Python and C++ models') -/
theorem packInt_eq (E : List BitField → Nat → Nat → Enc Nat) (val : BitField → Enc Nat) (hnil : ∀ s a, E [] s a = .ok a)
    (hcons : ∀ f fs s a, E (f :: fs) s a = (val f).bind fun x => E fs (s + f.width) (a + x * 2 ^ s)) :
    ∀ fs s a, E fs s a = (packInt val fs).bind fun N => .ok (a + 2 ^ s * N) := by
  intro fs
  induction fs with
  | nil => simp [hnil, packInt]
  | cons f fs ih => intro s a; simp only [hcons, packInt, bind_bind, ih, ok_bind, packInt_shift]

theorem encChunkFields_eq (ideal : Bool) (items : Items) (pl : Nat) (v : Value) (fs : List BitField) (shift acc : Nat) :
    encChunkFields ideal items pl v fs shift acc =
      (packInt (bfEnc ideal items pl v) fs).bind fun N => .ok (acc + 2 ^ shift * N) :=
  packInt_eq _ _ (fun _ _ => by simp only [encChunkFields]) (encChunkFields_cons ideal items pl v) fs shift acc

theorem packInt_cons_ok_iff {val : BitField → Enc Nat} {f : BitField} {fs : List BitField} {N : Nat} :
    packInt val (f :: fs) = .ok N ↔
      ∃ x N', val f = .ok x ∧ packInt val fs = .ok N' ∧ N = x + 2 ^ f.width * N' :=
  bind₂_ok_iff

theorem packInt_no_panic {val : BitField → Enc Nat} {fs : List BitField}
    (h : ∀ f ∈ fs, (val f).isPanic = false) : (packInt val fs).isPanic = false := by
  induction fs with
  | nil => rfl
  | cons f fs ih =>
    exact isPanic_bind (h f (List.mem_cons_self ..)) fun _ _ =>
      isPanic_bind (ih fun g hg => h g (List.mem_cons_of_mem _ hg)) fun _ _ => rfl

theorem packInt_lt {val : BitField → Enc Nat} {fs : List BitField} {N : Nat}
    (hv : ∀ f ∈ fs, ∀ x, val f = .ok x → x < 2 ^ f.width) (h : packInt val fs = .ok N) : N < 2 ^ chunkBits fs := by
  induction fs generalizing N with
  | nil => cases h; exact Nat.one_pos
  | cons f fs ih =>
    obtain ⟨x, N', hx, hN', rfl⟩ := packInt_cons_ok_iff.mp h
    rw [chunkBits_cons, Nat.pow_add]
    exact digit_lt (hv f (List.mem_cons_self ..) x hx) (ih (fun g hg => hv g (List.mem_cons_of_mem _ hg)) hN')

theorem packInt_okLe {v1 v2 : BitField → Enc Nat} (fs : List BitField) (h : ∀ f ∈ fs, OkLe (v1 f) (v2 f)) :
    OkLe (packInt v1 fs) (packInt v2 fs) := by
  induction fs with
  | nil => exact OkLe.rfl
  | cons f fs ih =>
    exact OkLe.bind (h f (List.mem_cons_self ..)) fun _ _ =>
      OkLe.bind (ih fun g hg => h g (List.mem_cons_of_mem _ hg)) fun _ _ => OkLe.rfl

/-- a back end whose bit-field groups are `packInt` of per-field values `val` writes what the reference mode writes,
    field class `P` by field class: the Rust, Python and C++ models are instances -/
theorem encChunkFields_okLe {val : BitField → Enc Nat} {P : BitField → Bool} {all : Items} {pl : Nat} {v : Value}
    (h : ∀ f, P f = true → OkLe (bfEnc true all pl v f) (val f)) (fs : List BitField) (hw : fs.all P = true)
    (shift acc : Nat) :
    OkLe (encChunkFields true all pl v fs shift acc) ((packInt val fs).bind fun N => .ok (acc + 2 ^ shift * N)) := by
  rw [encChunkFields_eq]
  exact OkLe.bind (packInt_okLe fs fun f hf => h f (List.all_eq_true.mp hw f hf)) fun _ _ => OkLe.rfl

/-- the size expression of an array target: the summed `encoded_len` of the elements of the first
    array with that identifier (`len * width` for scalar and enum elements is the same number) -/
theorem sizeFind_eq (v : Value) (t : String) (is : Items) :
    sizeOfTarget.find t v is =
      match firstArray is t with
      | none => .panic .badLayout
      | some (elem, _) => (listField v t).bind fun vs => .ok (sumLen (lenTy elem) vs) := by
  induction is using Items.induction with
  | nil => rfl
  | cons i r ih =>
    cases i with
    | array id elem ew sh pad =>
      simp only [sizeOfTarget.find, firstArray]
      split
      · rename_i h
        have : id = t := by simpa using h
        subst this
        cases elem <;> simp only [lenTy, sumLen_const]
      · exact ih
    | _ => simp only [sizeOfTarget.find, firstArray]; exact ih

theorem elemTy_firstArray (is : Items) (t : String) :
    encChunkFields.elemTy t is = (firstArray is t).map (·.1) := by
  induction is using Items.induction with
  | nil => rfl
  | cons i r ih =>
    cases i with
    | array id elem ew sh pad =>
      simp only [encChunkFields.elemTy, firstArray]
      split
      · rfl
      · exact ih
    | _ => simp only [encChunkFields.elemTy, firstArray]; exact ih

theorem sizeOfTarget_ok_iff {items : Items} {t : String} {pl : Nat} {v : Value} {s : Nat} :
    sizeOfTarget items t pl v = .ok s ↔
      if t = "_payload_" ∨ t = "_body_" then s = pl
      else ∃ elem ew vs, firstArray items t = some (elem, ew) ∧ v.get? t = some (.arr vs) ∧
        s = sumLen (lenTy elem) vs := by
  unfold sizeOfTarget
  by_cases h : t = "_payload_" ∨ t = "_body_"
  · have h' : (t == "_payload_" || t == "_body_") = true := by simpa using h
    simp only [h', h, ↓reduceIte, Outcome.ok.injEq]; exact eq_comm
  · have h' : (t == "_payload_" || t == "_body_") = false := by simpa using h
    simp only [h', h, Bool.false_eq_true, ↓reduceIte, sizeFind_eq]
    cases firstArray items t with
    | none => simp
    | some p =>
      obtain ⟨elem, ew⟩ := p
      simp only [bind_ok_iff, listField_ok_iff, Outcome.ok.injEq, Option.some.injEq, Prod.mk.injEq]
      constructor
      · rintro ⟨vs, hvs, rfl⟩; exact ⟨elem, ew, vs, ⟨rfl, rfl⟩, hvs, rfl⟩
      · rintro ⟨_, _, vs, ⟨rfl, rfl⟩, hvs, rfl⟩; exact ⟨vs, hvs, rfl⟩

theorem sizeOfTarget_payload (items : Items) (pl : Nat) (v : Value) : sizeOfTarget items "_payload_" pl v = .ok pl :=
  sizeOfTarget_ok_iff.mpr (by rw [if_pos (Or.inl rfl)])

theorem sizeOfTarget_array {items : Items} {t : String} {pl : Nat} {v : Value} {s : Nat} (ht : t ≠ "_payload_")
    (hb : t ≠ "_body_") :
    sizeOfTarget items t pl v = .ok s ↔
      ∃ elem ew vs, firstArray items t = some (elem, ew) ∧ v.get? t = some (.arr vs) ∧ s = sumLen (lenTy elem) vs := by
  rw [sizeOfTarget_ok_iff, if_neg fun h => h.elim ht hb]

theorem le_maskBits_iff (w x : Nat) : ¬ x > maskBits w ↔ x < 2 ^ w := by
  have := Nat.two_pow_pos w
  unfold maskBits; omega

/-- the two checks on a scalar bit-field (it is a value of the backing type; where that is wider than the field, it
    is at most the mask) say that it fits the field -/
theorem scalar_fits (w n : Nat) (h1 : ¬ n ≥ 2 ^ backingOf w) (h2 : ¬ (backingOf w > w ∧ n > maskBits w)) :
    n < 2 ^ w := by
  by_cases hbw : backingOf w > w
  · exact (le_maskBits_iff w n).mp fun hh => h2 ⟨hbw, hh⟩
  · exact Nat.lt_of_lt_of_le (Nat.not_le.mp h1) (Nat.pow_le_pow_right (by decide) (Nat.not_lt.mp hbw))

theorem backingOf_ge (w : Nat) (h : w ≤ 64) : w ≤ backingOf w := by
  unfold backingOf Enum.backing Enum.backing?
  by_cases h8 : w ≤ 8
  · rw [if_pos h8]; exact h8
  by_cases h16 : w ≤ 16
  · rw [if_neg h8, if_pos h16]; exact h16
  by_cases h32 : w ≤ 32
  · rw [if_neg h8, if_neg h16, if_pos h32]; exact h32
  · rw [if_neg h8, if_neg h16, if_neg h32, if_pos h]; exact h

theorem lt_backing {w x : Nat} (hw : w ≤ 64) (h : x < 2 ^ w) : x < 2 ^ backingOf w :=
  Nat.lt_of_lt_of_le h (Nat.pow_le_pow_right (by decide) (backingOf_ge w hw))

theorem enumOk_lt (e : Enum.Decl) (x : Nat) (h : enumOk e x = true) : x < 2 ^ e.width := by
  rcases Nat.lt_or_ge x (2 ^ e.width) with hlt | hge
  · exact hlt
  · have : Enum.spec e x = .err := by simp [Enum.spec, hge]
    simp [enumOk, this] at h

theorem bfEnc_scalar_ok_iff {ideal : Bool} {items : Items} {pl : Nat} {v : Value} {id : String} {w x : Nat} :
    bfEnc ideal items pl v (.scalar id w) = .ok x ↔
      v.get? id = some (.int x) ∧ x < 2 ^ backingOf w ∧ x < 2 ^ w := by
  simp only [bfEnc, bind_ok_iff, natField_ok_iff, ite_panic_eq_ok, ite_err_eq_ok, Outcome.ok.injEq]
  constructor
  · rintro ⟨n, hn, hb, hm, rfl⟩
    exact ⟨hn, Nat.not_le.mp hb, scalar_fits w n hb hm⟩
  · rintro ⟨hn, hb, hw⟩
    exact ⟨x, hn, Nat.not_le.mpr hb, fun hh => (le_maskBits_iff w x).mpr hw hh.2, rfl⟩

theorem bfEnc_enumTy_ok_iff {ideal : Bool} {items : Items} {pl : Nat} {v : Value} {id ty : String}
    {e : Enum.Decl} {x : Nat} :
    bfEnc ideal items pl v (.enumTy id ty e) = .ok x ↔ v.get? id = some (.int x) ∧ enumOk e x = true := by
  simp only [bfEnc, bind_ok_iff, natField_ok_iff, ite_else_panic_eq_ok, Outcome.ok.injEq]
  exact ⟨fun ⟨n, hn, hok, e⟩ => e ▸ ⟨hn, hok⟩, fun ⟨hn, hok⟩ => ⟨x, hn, hok, rfl⟩⟩

/-- reference mode (`ideal = true`): the modifier is added whatever the target is -/
theorem bfEnc_size_ok_iff {items : Items} {pl : Nat} {v : Value} {t : String} {w m x : Nat} :
    bfEnc true items pl v (.size t w m) = .ok x ↔
      ∃ s, sizeOfTarget items t pl v = .ok s ∧ x = s + m ∧ x < 2 ^ w := by
  simp only [bfEnc, bind_ok_iff, Bool.true_or, ↓reduceIte, ite_err_eq_ok, le_maskBits_iff, Outcome.ok.injEq]
  exact exists_congr fun s => and_congr_right fun _ => ⟨fun ⟨h, e⟩ => ⟨e.symm, e ▸ h⟩, fun ⟨e, h⟩ => ⟨e ▸ h, e.symm⟩⟩

/-- in reference mode a count is written as it is: it fits the field, hence the backing type -/
theorem bfEnc_count_ok_iff {items : Items} {pl : Nat} {v : Value} {t : String} {w x : Nat} (hw : w ≤ 64) :
    bfEnc true items pl v (.count t w) = .ok x ↔
      ∃ vs, v.get? t = some (.arr vs) ∧ x = vs.length ∧ x < 2 ^ w := by
  simp only [bfEnc, bind_ok_iff, listField_ok_iff, true_or, true_and, ite_err_eq_ok, le_maskBits_iff, Outcome.ok.injEq]
  refine exists_congr fun vs => and_congr_right fun _ => ?_
  constructor
  · rintro ⟨h, rfl⟩; rw [Nat.mod_eq_of_lt (lt_backing hw h)]; exact ⟨rfl, h⟩
  · rintro ⟨rfl, h⟩; exact ⟨h, Nat.mod_eq_of_lt (lt_backing hw h)⟩

theorem elemSize_check_iff (g : Value → Nat) (vs : List Value) (w x : Nat) :
    (if vs.any (fun y => g y != match vs with | [] => 0 | y :: _ => g y) then .err .invalidArrayElementSize
      else if (match vs with | [] => 0 | y :: _ => g y) > maskBits w then .err .sizeOverflow
      else (.ok (match vs with | [] => 0 | y :: _ => g y) : Enc Nat)) = .ok x ↔
      (∀ y ∈ vs, g y = x) ∧ (vs = [] → x = 0) ∧ x < 2 ^ w := by
  simp only [ite_err_eq_ok, le_maskBits_iff, Outcome.ok.injEq, List.any_eq_true, bne_iff_ne, ne_eq, not_exists,
    not_and, Decidable.not_not]
  cases vs with
  | nil => simp only [List.not_mem_nil, false_imp_iff, implies_true, true_and, forall_const]
           exact ⟨fun ⟨h, e⟩ => e ▸ ⟨rfl, h⟩, fun ⟨e, h⟩ => e ▸ ⟨e ▸ h, rfl⟩⟩
  | cons y ys =>
    simp only [reduceCtorEq, false_imp_iff, true_and]
    constructor
    · rintro ⟨hall, hlt, rfl⟩; exact ⟨hall, hlt⟩
    · rintro ⟨hall, hlt⟩; cases hall y (List.mem_cons_self ..); exact ⟨hall, hlt, rfl⟩

theorem bfEnc_elemSize_ok_iff {ideal : Bool} {items : Items} {pl : Nat} {v : Value} {t : String} {w x : Nat} :
    bfEnc ideal items pl v (.elemSize t w) = .ok x ↔
      ∃ vs elem ew, v.get? t = some (.arr vs) ∧ firstArray items t = some (elem, ew) ∧
        (∀ y ∈ vs, lenTy elem y = x) ∧ (vs = [] → x = 0) ∧ x < 2 ^ w := by
  simp only [bfEnc, bind_ok_iff, listField_ok_iff, elemTy_firstArray]
  constructor
  · rintro ⟨vs, hvs, h⟩
    cases hfa : firstArray items t with
    | none => simp [hfa] at h
    | some p =>
      simp only [hfa, Option.map_some] at h
      exact ⟨vs, p.1, p.2, hvs, rfl, (elemSize_check_iff _ vs w x).mp h⟩
  · rintro ⟨vs, elem, ew, hvs, hfa, h⟩
    refine ⟨vs, hvs, ?_⟩
    simp only [hfa, Option.map_some]
    exact (elemSize_check_iff _ vs w x).mpr h

/-- the flag value one governed optional field asks for -/
def vote (v : Value) (o : String × Nat) : Nat := if isPresent v o.1 then o.2 else 1 - o.2

theorem vote_le_one {v : Value} {o : String × Nat} (h : o.2 ≤ 1) : vote v o ≤ 1 := by
  unfold vote; split <;> omega

/-- "present exactly when the flag has the condition value" is a vote for the flag's bit -/
theorem vote_eq_iff (v : Value) (k : String) (val x : Nat) (hval : val ≤ 1) (hx : x ≤ 1) :
    vote v (k, val) = x ↔ (isPresent v k = true ↔ x = val) := by
  have h1 : val = 0 ∨ val = 1 := by omega
  have h2 : x = 0 ∨ x = 1 := by omega
  rcases h1 with rfl | rfl <;> rcases h2 with rfl | rfl <;> cases hp : isPresent v k <;> simp [vote, hp]

/-- the two tests of the emitted consistency check: "asks for 0", "asks for 1" -/
theorem vote_tests (v : Value) {q : String × Nat} (h : q.2 ≤ 1) :
    ((if q.2 = 1 then !isPresent v q.1 else isPresent v q.1) = true ↔ vote v q = 0) ∧
    ((if q.2 = 1 then isPresent v q.1 else !isPresent v q.1) = true ↔ vote v q = 1) := by
  obtain ⟨k, val⟩ := q
  have hv : val = 0 ∨ val = 1 := by simp only at h; omega
  rcases hv with rfl | rfl <;> cases hp : isPresent v k <;> simp [vote, hp]

/-- the emitted consistency check (`InconsistentConditionValue` when some governed field asks for 0 and
    some for 1) passes exactly when all governed fields ask for the same flag value -/
theorem flag_check_iff (v : Value) (o : String × Nat) (rest : List (String × Nat))
    (hval : ∀ q ∈ o :: rest, q.2 ≤ 1) :
    ¬ ((o :: rest).length ≥ 2 ∧
        ((o :: rest).any fun (k, val) => if val = 1 then !isPresent v k else isPresent v k) = true ∧
        ((o :: rest).any fun (k, val) => if val = 1 then isPresent v k else !isPresent v k) = true) ↔
      ∀ q ∈ o :: rest, vote v q = vote v o := by
  have zero : ((o :: rest).any fun (k, val) => if val = 1 then !isPresent v k else isPresent v k) = true ↔
      ∃ q ∈ o :: rest, vote v q = 0 := by
    simp only [List.any_eq_true]
    exact exists_congr fun q => and_congr_right fun hq => (vote_tests v (hval q hq)).1
  have one : ((o :: rest).any fun (k, val) => if val = 1 then isPresent v k else !isPresent v k) = true ↔
      ∃ q ∈ o :: rest, vote v q = 1 := by
    simp only [List.any_eq_true]
    exact exists_congr fun q => and_congr_right fun hq => (vote_tests v (hval q hq)).2
  rw [zero, one]
  constructor
  · intro h q hq
    have hq1 := vote_le_one (v := v) (hval q hq)
    have ho1 := vote_le_one (v := v) (hval o (List.mem_cons_self ..))
    refine Classical.byContradiction fun hne => h ⟨?_, ?_, ?_⟩
    · cases rest with
      | nil => simp only [List.mem_singleton] at hq; exact absurd (hq ▸ rfl) hne
      | cons _ _ => simp
    · by_cases h0 : vote v q = 0
      · exact ⟨q, hq, h0⟩
      · exact ⟨o, List.mem_cons_self .., by omega⟩
    · by_cases h0 : vote v q = 1
      · exact ⟨q, hq, h0⟩
      · exact ⟨o, List.mem_cons_self .., by omega⟩
  · rintro h ⟨_, ⟨q0, hq0, h0⟩, ⟨q1, hq1, h1⟩⟩
    have := h q0 hq0; have := h q1 hq1; omega

theorem bfEnc_flag_ok_iff {ideal : Bool} {items : Items} {pl : Nat} {v : Value} {id : String}
    {opts : List (String × Nat)} {x : Nat} (hval : ∀ q ∈ opts, q.2 ≤ 1) :
    bfEnc ideal items pl v (.flag id opts) = .ok x ↔ opts ≠ [] ∧ ∀ q ∈ opts, vote v q = x := by
  cases opts with
  | nil => simp [bfEnc]
  | cons o rest =>
    obtain ⟨oid, setv⟩ := o
    simp only [bfEnc, ne_eq, reduceCtorEq, not_false_eq_true, true_and]
    split
    · rename_i h
      simp only [reduceCtorEq, false_iff]
      intro hall
      exact (flag_check_iff v (oid, setv) rest hval).mpr
        (fun q hq => (hall q hq).trans (hall _ (List.mem_cons_self ..)).symm) h
    · rename_i h
      have hv := (flag_check_iff v (oid, setv) rest hval).mp h
      simp only [Outcome.ok.injEq]
      constructor
      · rintro rfl; exact hv
      · intro hall; exact hall (oid, setv) (List.mem_cons_self ..)

theorem bfOk_flag {id : String} {opts : List (String × Nat)} (h : bfOk (.flag id opts) = true) : ∀ q ∈ opts, q.2 ≤ 1 :=
  fun q hq => of_decide_eq_true (List.all_eq_true.mp h q hq)

theorem bfOk_count {t : String} {w : Nat} (h : bfOk (.count t w) = true) : w ≤ 64 := of_decide_eq_true h

theorem bfOk_size {t : String} {w m : Nat} (h : bfOk (.size t w m) = true) : t ≠ "_body_" := bne_iff_ne.mp h

/-- **in reference mode every field value fits its width** (`bfOk`: what the analyzer guarantees of the
    constants) -/
theorem bfEnc_lt {items : Items} {pl : Nat} {v : Value} {f : BitField} {x : Nat} (hf : bfOk f = true)
    (h : bfEnc true items pl v f = .ok x) : x < 2 ^ f.width := by
  cases f with
  | scalar id w => exact (bfEnc_scalar_ok_iff.mp h).2.2
  | enumTy id ty e => exact enumOk_lt e x (bfEnc_enumTy_ok_iff.mp h).2
  | fixed w c => cases h; exact of_decide_eq_true hf
  | reserved w => cases h; exact Nat.two_pow_pos w
  | size t w m => obtain ⟨_, _, _, hx⟩ := bfEnc_size_ok_iff.mp h; exact hx
  | count t w => obtain ⟨_, _, _, hx⟩ := (bfEnc_count_ok_iff (bfOk_count hf)).mp h; exact hx
  | elemSize t w => obtain ⟨_, _, _, _, _, _, _, hx⟩ := bfEnc_elemSize_ok_iff.mp h; exact hx
  | flag id opts =>
    have hval := bfOk_flag hf
    obtain ⟨hne, hall⟩ := (bfEnc_flag_ok_iff hval).mp h
    cases opts with
    | nil => exact absurd rfl hne
    | cons o r =>
      have := vote_le_one (v := v) (hval o (List.mem_cons_self ..))
      rw [hall o (List.mem_cons_self ..)] at this
      exact Nat.lt_succ_of_le this

end Pdlv
