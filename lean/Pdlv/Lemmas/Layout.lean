/-
  Pdlv.Lemmas.Layout — induction over a layout: one statement each for types, items, field lists and
  bodies, proved together.  This is `Ty.rec` (the four recursors share their minor premises) packaged so
  that a proof reads `apply Layout.induction` followed by one named case per constructor, with the
  induction hypotheses as ordinary arguments (a `mutual` block of theorems states the same through structural
  recursion).
-/
import Pdlv.Wire

namespace Pdlv

theorem Layout.induction {P : Ty → Prop} {Q : Item → Prop} {R : Items → Prop} {S : Body → Prop}
    (scalar : ∀ w, P (.scalar w)) (enumTy : ∀ nm en, P (.enumTy nm en)) (custom : ∀ nm w, P (.custom nm w))
    (struct : ∀ nm b, S b → P (.struct nm b))
    (chunk : ∀ fs, Q (.chunk fs))
    (array : ∀ id elem ew shape pad, P elem → Q (.array id elem ew shape pad))
    (typedef : ∀ id ty sb, P ty → Q (.typedef id ty sb))
    (optional : ∀ id ty cid cv, P ty → Q (.optional id ty cid cv))
    (payload : ∀ m, Q (.payload m))
    (nil : R .nil) (cons : ∀ i r, Q i → R r → R (.cons i r))
    (root : ∀ nm items, R items → S (.root nm items))
    (derived : ∀ nm parent cs allCs items, S parent → R items → S (.derived nm parent cs allCs items)) :
    (∀ t, P t) ∧ (∀ i, Q i) ∧ (∀ is, R is) ∧ (∀ b, S b) :=
  ⟨fun t => Ty.rec (motive_1 := P) (motive_2 := Q) (motive_3 := R) (motive_4 := S)
      scalar enumTy custom struct chunk array typedef optional payload nil cons root derived t,
    fun i => Item.rec (motive_1 := P) (motive_2 := Q) (motive_3 := R) (motive_4 := S)
      scalar enumTy custom struct chunk array typedef optional payload nil cons root derived i,
    fun is => Items.rec (motive_1 := P) (motive_2 := Q) (motive_3 := R) (motive_4 := S)
      scalar enumTy custom struct chunk array typedef optional payload nil cons root derived is,
    fun b => Body.rec (motive_1 := P) (motive_2 := Q) (motive_3 := R) (motive_4 := S)
      scalar enumTy custom struct chunk array typedef optional payload nil cons root derived b⟩

def Item.ty? : Item → Option Ty
  | .typedef _ ty _ => some ty
  | .optional _ ty _ _ => some ty
  | .array _ elem _ _ _ => some elem
  | _ => none

/-- the same without a statement about single items: the step for a field list gets the hypothesis for the
    type of its first item, if that has one -/
theorem Layout.induction₃ {P : Ty → Prop} {Q : Items → Prop} {R : Body → Prop}
    (scalar : ∀ w, P (.scalar w)) (enumTy : ∀ nm e, P (.enumTy nm e)) (custom : ∀ nm w, P (.custom nm w))
    (struct : ∀ nm b, R b → P (.struct nm b))
    (nil : Q .nil) (cons : ∀ i r, (∀ ty, i.ty? = some ty → P ty) → Q r → Q (.cons i r))
    (root : ∀ nm items, Q items → R (.root nm items))
    (derived : ∀ nm parent cs allCs items, R parent → Q items → R (.derived nm parent cs allCs items)) :
    (∀ ty, P ty) ∧ (∀ is, Q is) ∧ (∀ b, R b) :=
  have h := Layout.induction (P := P) (Q := fun i => ∀ ty, i.ty? = some ty → P ty) (R := Q) (S := R)
    scalar enumTy custom struct (fun _ _ h => nomatch h) (fun _ _ _ _ _ ih _ h => Option.some.inj h ▸ ih)
    (fun _ _ _ ih _ h => Option.some.inj h ▸ ih) (fun _ _ _ _ ih _ h => Option.some.inj h ▸ ih)
    (fun _ _ h => nomatch h) nil cons root derived
  ⟨h.1, h.2.2.1, h.2.2.2⟩

/-- a statement about field lists alone: the step gets it for the own fields of a struct without parent that types the
    first item as a typedef field -/
theorem Layout.induction_struct {Q : Items → Prop} (nil : Q .nil)
    (cons : ∀ i r, (∀ id nm snm sitems sb, i = .typedef id (.struct nm (.root snm sitems)) sb → Q sitems) → Q r →
      Q (.cons i r)) : ∀ is, Q is :=
  (Layout.induction₃ (P := fun ty => ∀ nm snm sitems, ty = .struct nm (.root snm sitems) → Q sitems) (Q := Q)
    (R := fun b => ∀ snm sitems, b = .root snm sitems → Q sitems)
    (scalar := fun _ _ _ _ h => nomatch h) (enumTy := fun _ _ _ _ _ h => nomatch h) (custom := fun _ _ _ _ _ h => nomatch h)
    (struct := fun _ _ hb _ snm sitems h => by cases h; exact hb snm sitems rfl)
    (nil := nil)
    (cons := fun i r hty ihr => cons i r (fun _ nm snm sitems _ h => hty _ (h ▸ rfl) nm snm sitems rfl) ihr)
    (root := fun _ _ hq _ _ h => by cases h; exact hq) (derived := fun _ _ _ _ _ _ _ _ _ h => nomatch h)).2.1

/-- a statement about field lists that needs nothing of the items: list induction (`induction is using Items.induction`;
    `Items` is one of four mutually inductive types, so plain `induction` does not apply) -/
theorem Items.induction {Q : Items → Prop} (nil : Q .nil) (cons : ∀ i r, Q r → Q (.cons i r)) (is : Items) : Q is :=
  Layout.induction_struct nil (fun i r _ => cons i r) is

/-- a statement about a packet and its ancestors that needs nothing of the field lists: induction along the parent chain
    (`induction b using Body.induction`) -/
theorem Body.induction {R : Body → Prop} (root : ∀ nm items, R (.root nm items))
    (derived : ∀ nm parent cs allCs items, R parent → R (.derived nm parent cs allCs items)) (b : Body) : R b :=
  (Layout.induction₃ (P := fun _ => True) (Q := fun _ => True) (R := R) (fun _ => trivial) (fun _ _ => trivial)
    (fun _ _ => trivial) (fun _ _ _ => trivial) trivial (fun _ _ _ _ => trivial) (fun nm items _ => root nm items)
    (fun nm parent cs allCs items ih _ => derived nm parent cs allCs items ih)).2.2 b

end Pdlv
