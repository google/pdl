/-
  Pdlv.Lemmas.JavaChunk — a bit-field group of at most 32 bits is packed by the emitted Java (`Pdlv.Java.encChunk`)
  exactly as the reference packs it: the typed shifts and ORs of `ExprTree` lose nothing below 33 bits.  For the parser:
  what `mask` extracts from a group of 8, 16 or 32 bits, and `SameFields` (same acceptance, related results) as a
  congruence of the `Outcome` monad, through which every parser theorem of the Java model goes.
-/
import Pdlv.Java
import Pdlv.Lemmas.ChunkEnc

namespace Pdlv
namespace Java


theorem bits_mono {a b : JT} (h : a.rank ≤ b.rank) : a.bits ≤ b.bits := by
  cases a <;> cases b <;> simp [JT.rank, JT.bits] at h ⊢

theorem maxT_ge (a b : JT) : a.rank ≤ (maxT a b).rank ∧ b.rank ≤ (maxT a b).rank := by
  unfold maxT; split <;> omega

theorem foldl_max_ge (es : List E) : ∀ (a : JT), a.rank ≤ (es.foldl (fun a x => maxT a x.ty) a).rank ∧
    ∀ e ∈ es, e.ty.rank ≤ (es.foldl (fun a x => maxT a x.ty) a).rank := by
  induction es with
  | nil => intro a; exact ⟨Nat.le_refl _, fun e he => by simp at he⟩
  | cons x xs ih =>
    intro a
    simp only [List.foldl_cons]
    obtain ⟨h1, h2⟩ := ih (maxT a x.ty)
    refine ⟨Nat.le_trans (maxT_ge a x.ty).1 h1, ?_⟩
    intro e he
    rcases List.mem_cons.mp he with rfl | he
    · exact Nat.le_trans (maxT_ge a e.ty).2 h1
    · exact h2 e he

theorem cast_val_of_lt (e : E) (t : JT) (h : e.val < 2 ^ t.bits) : (cast e t).val = e.val := by
  unfold cast
  split
  · rfl
  · simp only; exact Nat.mod_eq_of_lt h

theorem cast_ty (e : E) (t : JT) : (cast e t).ty = t := by
  unfold cast; split
  · assumption
  · rfl

/-- the shifted fields sit on top of each other: field `i` is `x * 2^off` with `x < 2^w`, the next one starts at
    `off + w`; each fits its own Java type -/
def Stacked : List E → Nat → Nat → Prop
  | [], off, top => off = top
  | e :: r, off, top => ∃ x w, e.val = x * 2 ^ off ∧ x < 2 ^ w ∧ e.val < 2 ^ e.ty.bits ∧ Stacked r (off + w) top

def sumVals : List E → Nat
  | [] => 0
  | e :: r => e.val + sumVals r

theorem or_fold_sum (t : JT) : ∀ (es : List E) (off top a : Nat), Stacked es off top → a < 2 ^ off →
    (∀ e ∈ es, e.ty.rank ≤ t.rank) →
    es.foldl (fun a x => a ||| (cast x t).val) a = a + sumVals es ∧ a + sumVals es < 2 ^ top := by
  intro es
  induction es with
  | nil =>
    intro off top a hs ha _
    simp only [Stacked] at hs
    subst hs
    simp [sumVals, ha]
  | cons e r ih =>
    intro off top a hs ha ht
    obtain ⟨x, w, hv, hx, hfit, hr⟩ := hs
    have hte : e.ty.bits ≤ t.bits := bits_mono (ht e (List.mem_cons_self ..))
    have hc : (cast e t).val = e.val :=
      cast_val_of_lt e t (Nat.lt_of_lt_of_le hfit (Nat.pow_le_pow_right (by decide) hte))
    simp only [List.foldl_cons, hc, sumVals]
    have hor : a ||| e.val = a + e.val := by
      rw [hv, Nat.or_comm, Nat.mul_comm x, ← Nat.two_pow_add_eq_or_of_lt ha]
      omega
    rw [hor]
    have hlt : a + e.val < 2 ^ (off + w) := by
      rw [hv, Nat.pow_add, Nat.mul_comm x]
      exact digit_lt ha hx
    obtain ⟨h1, h2⟩ := ih (off + w) top (a + e.val) hr hlt (fun e' he' => ht e' (List.mem_cons_of_mem _ he'))
    exact ⟨by rw [h1, Nat.add_assoc], by rw [← Nat.add_assoc]; exact h2⟩

theorem lshift_exact (e : E) (x w off : Nat) (hx : x < 2 ^ w) (hv : e.val = x) (hfit : e.val < 2 ^ e.ty.bits)
    (hint : e.ty.rank ≤ 2) (hlit : e.lit = some 0 → x = 0) (hw : 0 < w) (h32 : off + w ≤ 32) :
    (lshift e off).val = x * 2 ^ off ∧ (lshift e off).val < 2 ^ (lshift e off).ty.bits ∧ (lshift e off).ty.rank ≤ 2 := by
  unfold lshift
  by_cases hz : (e.lit = some 0 || off = 0) = true
  · simp only [hz, ↓reduceIte]
    simp only [Bool.or_eq_true, decide_eq_true_eq] at hz
    rcases hz with h0 | h0
    · have := hlit h0
      subst this
      exact ⟨by simp [hv], hfit, hint⟩
    · subst h0
      exact ⟨by simp [hv], hfit, hint⟩
  · simp only [hz, Bool.false_eq_true, ↓reduceIte]
    have hti : limitToInt e.ty = .int := by
      unfold limitToInt maxT
      cases hty : e.ty <;> simp [JT.rank, hty] at hint ⊢
    have hoff : off < 32 := by omega
    have hcast : (cast e .int).val = x := by
      rw [cast_val_of_lt e .int (Nat.lt_of_lt_of_le hfit (Nat.pow_le_pow_right (by decide) (bits_mono (b := .int) hint)))]
      exact hv
    simp only [hti, JT.bits, hcast, Nat.mod_eq_of_lt hoff, JT.rank, Nat.le_refl, and_true]
    have hlt : x * 2 ^ off < 2 ^ 32 :=
      calc x * 2 ^ off < 2 ^ w * 2 ^ off := Nat.mul_lt_mul_of_pos_right hx (Nat.two_pow_pos off)
        _ = 2 ^ (w + off) := (Nat.pow_add 2 w off).symm
        _ ≤ 2 ^ 32 := Nat.pow_le_pow_right (by decide) (by omega)
    rw [Nat.mod_eq_of_lt hlt]
    exact ⟨rfl, hlt⟩

theorem fitting_bits (w : Nat) (h : w ≤ 64) : w ≤ (fitting w).bits := by
  unfold fitting
  split; · exact ‹w ≤ 8›
  split; · exact ‹w ≤ 16›
  split; · exact ‹w ≤ 32›
  exact h

theorem fitting_rank (w : Nat) (h : w ≤ 32) : (fitting w).rank ≤ 2 := by
  unfold fitting
  split; · decide
  split; · decide
  decide

/-- `e` presents the value `x` of a field of `w` bits to the packer: unchanged, inside its Java type, of a type no wider
    than `int`, and a literal 0 only if it is 0 (`lshift` prunes those) -/
def Presents (e : E) (x w : Nat) : Prop :=
  e.val = x ∧ x < 2 ^ w ∧ e.val < 2 ^ e.ty.bits ∧ e.ty.rank ≤ 2 ∧ (e.lit = some 0 → x = 0)

theorem presents_sym (t : JT) (x w : Nat) (hx : x < 2 ^ w) (hw : w ≤ t.bits) (ht : t.rank ≤ 2) : Presents (sym t x) x w :=
  have hlt : x < 2 ^ t.bits := Nat.lt_of_lt_of_le hx (Nat.pow_le_pow_right (by decide) hw)
  ⟨Nat.mod_eq_of_lt hlt, hx, Nat.mod_lt _ (Nat.two_pow_pos _), ht, fun h => by cases h⟩

theorem presents_num (c w : Nat) (hc : c < 2 ^ w) (h31 : c < 2 ^ 31) : Presents (num c) c w :=
  ⟨Nat.mod_eq_of_lt (by omega), hc, Nat.mod_lt _ (by decide), Nat.le_refl 2, fun h => by cases h; rfl⟩

/-- a size or count: computed in `int`, then cast to the field's type -/
theorem presents_cast (x w : Nat) (hx : x < 2 ^ w) (hw : w ≤ 32) : Presents (cast (sym .int x) (fitting w)) x w := by
  have hs : (sym .int x).val = x :=
    Nat.mod_eq_of_lt (Nat.lt_of_lt_of_le hx (Nat.pow_le_pow_right (by decide) hw))
  have hfit : x < 2 ^ (fitting w).bits := Nat.lt_of_lt_of_le hx (Nat.pow_le_pow_right (by decide) (fitting_bits w (Nat.le_trans hw (by decide))))
  have hv : (cast (sym .int x) (fitting w)).val = x := by rw [cast_val_of_lt _ _ (by rw [hs]; exact hfit), hs]
  refine ⟨hv, hx, by rw [hv, cast_ty]; exact hfit, by rw [cast_ty]; exact fitting_rank w hw, fun h => ?_⟩
  have : (cast (sym .int x) (fitting w)).lit = none := by unfold cast; split <;> rfl
  rw [this] at h; cases h

theorem toNum_ref (all : Items) (pl : Nat) (v : Value) (f : BitField) (hf : bfOkE f = true) (h32 : f.width ≤ 32) (x : Nat)
    (h : bfEnc true all pl v f = .ok x) : ∃ e, toNum all pl v f = .ok e ∧ Presents e x f.width := by
  cases f with
  | scalar id w =>
    obtain ⟨hg, _, hx⟩ := bfEnc_scalar_ok_iff.mp h
    refine ⟨_, by simp only [toNum, natField_ok_iff.mpr hg, Outcome.ok_bind]; rw [if_neg (by omega)], ?_⟩
    simp only [BitField.width] at h32 ⊢
    split
    · exact presents_sym .int x w hx h32 (Nat.le_refl 2)
    · exact presents_sym _ x w hx (fitting_bits w (Nat.le_trans h32 (by decide))) (fitting_rank w h32)
  | enumTy id ty e =>
    obtain ⟨hg, hok⟩ := bfEnc_enumTy_ok_iff.mp h
    have hx := enumOk_lt e x hok
    simp only [BitField.width] at h32 ⊢
    exact ⟨_, by simp only [toNum, natField_ok_iff.mpr hg, Outcome.ok_bind]; rw [if_neg (by omega)],
      presents_sym _ x e.width hx (fitting_bits _ (Nat.le_trans h32 (by decide))) (fitting_rank _ h32)⟩
  | fixed w c =>
    simp only [bfOkE, bfOkJ, Bool.and_eq_true, decide_eq_true_eq] at hf
    cases h
    exact ⟨num x, by simp [toNum, hf.2], presents_num x w hf.1.2 hf.2⟩
  | reserved w =>
    cases h
    exact ⟨num 0, rfl, presents_num 0 w (Nat.two_pow_pos w) (by decide)⟩
  | size t w m =>
    obtain ⟨s, hs, rfl, hx⟩ := bfEnc_size_ok_iff.mp h
    simp only [BitField.width] at h32 ⊢
    exact ⟨_, by simp only [toNum, Nat.not_lt.mpr h32, ↓reduceIte, hs, Outcome.ok_bind]; rw [if_neg (by omega)],
      presents_cast _ w hx h32⟩
  | count t w =>
    simp only [BitField.width] at h32 ⊢
    obtain ⟨vs, hg, rfl, hx⟩ := (bfEnc_count_ok_iff (Nat.le_trans h32 (by decide))).mp h
    exact ⟨_, by simp only [toNum, Nat.not_lt.mpr h32, ↓reduceIte, listField_ok_iff.mpr hg, Outcome.ok_bind]; rw [if_neg (by omega)],
      presents_cast _ w hx h32⟩
  | flag _ _ | elemSize _ _ => simp [bfOkE, bfOkJ] at hf

theorem bfOkE_pos (f : BitField) (hf : bfOkE f = true) : 0 < f.width := by
  cases f <;> simp [bfOkE, bfOkJ, BitField.width] at hf ⊢ <;> omega

/-- the fields of a group, from offset `off`: what the reference adds up is what the emitted Java stacks -/
theorem pack_ref (all : Items) (pl : Nat) (v : Value) :
    ∀ (fs : List BitField) (off acc X : Nat), fs.all bfOkE = true → off + chunkBits fs ≤ 32 →
      Pdlv.encChunkFields true all pl v fs off acc = .ok X →
      ∃ es, packFields all pl v fs off = .ok es ∧ Stacked es off (off + chunkBits fs) ∧ X = acc + sumVals es ∧
        ∀ e ∈ es, e.ty.rank ≤ 2 := by
  intro fs
  induction fs with
  | nil =>
    intro off acc X _ _ h
    simp only [Pdlv.encChunkFields, Outcome.ok.injEq] at h
    exact ⟨[], rfl, by simp [Stacked, chunkBits], by simp [sumVals, h], fun e he => by simp at he⟩
  | cons f fs ih =>
    intro off acc X hw h32 h
    simp only [List.all_cons, Bool.and_eq_true] at hw
    rw [chunkBits_cons] at h32
    rw [encChunkFields_cons] at h
    obtain ⟨x, hx, hrest⟩ := Outcome.bind_ok_iff.mp h
    obtain ⟨e, hte, hv, hlt, hfit, hrk, hlit⟩ := toNum_ref all pl v f hw.1 (by omega) x hx
    obtain ⟨es, h1, h2, h3, h4⟩ := ih (off + f.width) _ X hw.2 (by omega) hrest
    obtain ⟨l1, l2, l3⟩ := lshift_exact e x f.width off hlt hv hfit hrk hlit (bfOkE_pos f hw.1) (by omega)
    refine ⟨lshift e off :: es, by simp [packFields, hte, h1, Outcome.ok_bind], ⟨x, f.width, l1, hlt, l2, ?_⟩, ?_, ?_⟩
    · rw [chunkBits_cons, ← Nat.add_assoc]; exact h2
    · rw [h3, sumVals, l1, Nat.add_assoc]
    · intro e' he'
      rcases List.mem_cons.mp he' with rfl | he'
      · exact l3
      · exact h4 e' he'

theorem chunk_ref (en : Endian) (all : Items) (pl : Nat) (v : Value) (fs : List BitField)
    (hw : fs.all bfOkE = true ∧ chunkBits fs ≤ 32)
    (X : Nat) (h : Pdlv.encChunkFields true all pl v fs 0 0 = .ok X) :
    encChunk en all pl v fs = .ok (putUint en (chunkBits fs) X) := by
  obtain ⟨es, h1, h2, h3, _⟩ := pack_ref all pl v fs 0 0 X hw.1 (by rw [Nat.zero_add]; exact hw.2) h
  have hnot : ¬ chunkBits fs > 64 := Nat.not_lt.mpr (Nat.le_trans hw.2 (by decide))
  simp only [encChunk, hnot, ↓reduceIte, h1, Outcome.ok_bind, putGroup, Outcome.ok.injEq]
  simp only [Nat.zero_add] at h2 h3
  -- the OR of the stacked fields is their sum
  have hor : (orAll es).val = X ∧ X < 2 ^ chunkBits fs := by
    cases es with
    | nil =>
      simp only [Stacked] at h2
      simp only [sumVals] at h3
      subst h3
      simp [orAll, num, ← h2]
    | cons e r =>
      simp only [orAll]
      obtain ⟨hs, hlt⟩ := or_fold_sum _ (e :: r) 0 (chunkBits fs) 0 h2
        (by simp) (foldl_max_ge (e :: r) .byte).2
      simp only [Nat.zero_add] at hs hlt
      exact ⟨by rw [hs, h3], by rw [h3]; exact hlt⟩
  obtain ⟨hv, hX⟩ := hor
  have hfit : (orAll es).val < 2 ^ (fitting (chunkBits fs)).bits :=
    Nat.lt_of_lt_of_le (by rw [hv]; exact hX) (Nat.pow_le_pow_right (by decide) (fitting_bits _ (Nat.le_trans hw.2 (by decide))))
  rw [cast_val_of_lt _ _ hfit, hv, Nat.mod_eq_of_lt hX]

theorem mask_masked (W chunk off w : Nat) (hW : W = 8 ∨ W = 16 ∨ W = 32) (hc : chunk < 2 ^ W) (hw : 0 < w)
    (hfit : off + w ≤ W) (hraw : ¬ (off = 0 ∧ (fitting W).bits = w)) :
    (maskField (fitting W) chunk off w).val = (chunk / 2 ^ off) % 2 ^ w ∧ (maskField (fitting W) chunk off w).ty = fitting w := by
  have hbits : (fitting W).bits = W := by
    rcases hW with h | h | h <;> subst h <;> rfl
  have hsym : (sym (fitting W) chunk).val = chunk := by
    simp only [sym, hbits]; exact Nat.mod_eq_of_lt hc
  have hlim : limitToInt (fitting W) = .int := by
    unfold limitToInt maxT
    rcases hW with h | h | h <;> subst h <;> rfl
  -- all that matters of the group's type from here on: its width, at most 32 bits, and that it is widened to `int`
  have hW32 : W ≤ 32 := by rcases hW with rfl | rfl | rfl <;> decide
  clear hW
  have ⟨ho32, hw32⟩ : off < 32 ∧ w ≤ 32 := by omega
  have hc32 : chunk < 2 ^ 32 := Nat.lt_of_lt_of_le hc (Nat.pow_le_pow_right (by decide) hW32)
  have hcastint : (cast (sym (fitting W) chunk) .int).val = chunk := by
    rw [cast_val_of_lt _ _ (by rw [hsym]; simpa [JT.bits] using hc32), hsym]
  have hsh : (rshift (sym (fitting W) chunk) off).val = chunk / 2 ^ off ∧
      (limitToInt (rshift (sym (fitting W) chunk) off).ty = .int) := by
    unfold rshift
    by_cases hz : ((sym (fitting W) chunk).lit = some 0 || off = 0) = true
    · simp only [hz, ↓reduceIte]
      simp only [sym, Bool.or_eq_true, decide_eq_true_eq] at hz
      rcases hz with h0 | h0
      · cases h0
      · subst h0; exact ⟨by simp [hsym], hlim⟩
    · have hty : (sym (fitting W) chunk).ty = fitting W := rfl
      have hoff : off % 32 = off := Nat.mod_eq_of_lt ho32
      simp only [hz, Bool.false_eq_true, ↓reduceIte, hty, hlim, JT.bits, hcastint, hoff]
      trivial
  unfold maskField
  simp only [hraw, ↓reduceIte]
  have hand : (andMask (rshift (sym (fitting W) chunk) off) w).val = (chunk / 2 ^ off) % 2 ^ w := by
    unfold andMask
    simp only [hsh.2, JT.bits]
    have hle : (rshift (sym (fitting W) chunk) off).val < 2 ^ 32 := by
      rw [hsh.1]; exact Nat.lt_of_le_of_lt (Nat.div_le_self _ _) hc32
    rw [cast_val_of_lt _ _ (by simpa [JT.bits] using hle), hsh.1]
    apply Nat.mod_eq_of_lt
    exact Nat.lt_of_lt_of_le (Nat.mod_lt _ (Nat.two_pow_pos w)) (Nat.pow_le_pow_right (by decide) hw32)
  have hlt : (andMask (rshift (sym (fitting W) chunk) off) w).val < 2 ^ (fitting w).bits := by
    rw [hand]
    exact Nat.lt_of_lt_of_le (Nat.mod_lt _ (Nat.two_pow_pos w)) (Nat.pow_le_pow_right (by decide) (fitting_bits w (Nat.le_trans hw32 (by decide))))
  exact ⟨by rw [cast_val_of_lt _ _ hlt, hand], cast_ty _ _⟩

/-- `(group >>> offset) & mask`, or the raw group variable when the field is the whole group: the field's bits -/
theorem mask_exact (W chunk off w : Nat) (hW : W = 8 ∨ W = 16 ∨ W = 32) (hc : chunk < 2 ^ W) (hw : 0 < w)
    (hfit : off + w ≤ W) :
    (maskField (fitting W) chunk off w).val % 2 ^ w = (chunk / 2 ^ off) % 2 ^ w := by
  by_cases hraw : off = 0 ∧ (fitting W).bits = w
  · obtain ⟨rfl, hb⟩ := hraw
    simp [maskField, rshift, sym, hb]
  · rw [(mask_masked W chunk off w hW hc hw hfit hraw).1, Nat.mod_mod]

/-- same acceptance, and on success results related by `R` (not equal: the reference's state also records the scalar
    values that condition flags refer to, which the Java class has no use for).  Failures are not related: an exception of
    the emitted parser, an error and a hazard of the reference are all alike (`SameFields R (.panic _) (.err _)` holds), so
    nothing about hazards of one side follows from the other's -/
def SameFields {α β : Type} (R : α → β → Prop) (p : Dec α) (q : Dec β) : Prop :=
  (∀ a, p = .ok a → ∃ b, q = .ok b ∧ R a b) ∧ (∀ b, q = .ok b → ∃ a, p = .ok a ∧ R a b)

def RelSt (a b : DState) : Prop := a.fields = b.fields ∧ a.payload = b.payload

namespace SameFields
variable {α β γ δ : Type} {R : α → β → Prop} {S : γ → δ → Prop}

theorem ok {a : α} {b : β} (h : R a b) : SameFields R (.ok a : Dec α) (.ok b : Dec β) :=
  ⟨fun _ h' => ⟨b, rfl, by cases h'; exact h⟩, fun _ h' => ⟨a, rfl, by cases h'; exact h⟩⟩

/-- two failures are the same, whatever they are (the emitted parser throws where the reference returns an error or would
    not compile) -/
theorem fail {p : Dec α} {q : Dec β} (hp : p.isOk = false) (hq : q.isOk = false) : SameFields R p q :=
  ⟨fun a h => (by rw [h] at hp; cases hp), fun b h => (by rw [h] at hq; cases hq)⟩

theorem bind {p : Dec α} {q : Dec β} {f : α → Dec γ} {g : β → Dec δ} (h : SameFields R p q)
    (hfg : ∀ a b, p = .ok a → q = .ok b → R a b → SameFields S (f a) (g b)) : SameFields S (p.bind f) (q.bind g) := by
  constructor
  · intro c hc
    obtain ⟨a, ha, hfa⟩ := Outcome.bind_ok_iff.mp hc
    obtain ⟨b, hb, hab⟩ := h.1 a ha
    obtain ⟨d, hd, hcd⟩ := (hfg a b ha hb hab).1 c hfa
    exact ⟨d, by rw [hb]; exact hd, hcd⟩
  · intro d hd
    obtain ⟨b, hb, hgb⟩ := Outcome.bind_ok_iff.mp hd
    obtain ⟨a, ha, hab⟩ := h.2 b hb
    obtain ⟨c, hc, hcd⟩ := (hfg a b ha hb hab).2 d hgb
    exact ⟨c, by rw [ha]; exact hc, hcd⟩

theorem ite {c : Prop} [Decidable c] {p p' : Dec α} {q q' : Dec β} (h1 : c → SameFields R p q)
    (h2 : ¬ c → SameFields R p' q') : SameFields R (if c then p else p') (if c then q else q') := by
  split
  · exact h1 ‹_›
  · exact h2 ‹_›

theorem mono {R' : α → β → Prop} {p : Dec α} {q : Dec β} (h : SameFields R p q) (hR : ∀ a b, R a b → R' a b) :
    SameFields R' p q :=
  ⟨fun a ha => let ⟨b, hb, hab⟩ := h.1 a ha; ⟨b, hb, hR a b hab⟩, fun b hb => let ⟨a, ha, hab⟩ := h.2 b hb; ⟨a, ha, hR a b hab⟩⟩

theorem iff {p q : Dec α} (h : SameFields Eq p q) (v : α) : p = .ok v ↔ q = .ok v :=
  ⟨fun hp => let ⟨_, hb, e⟩ := h.1 v hp; e ▸ hb, fun hq => let ⟨_, ha, e⟩ := h.2 v hq; e ▸ ha⟩

theorem refl {p : Dec α} : SameFields Eq p p :=
  ⟨fun a ha => ⟨a, ha, Eq.refl a⟩, fun a ha => ⟨a, ha, Eq.refl a⟩⟩

theorem trans {p q r : Dec α} (h1 : SameFields Eq p q) (h2 : SameFields Eq q r) : SameFields Eq p r :=
  ⟨fun a ha => let ⟨_, hb, e⟩ := h1.1 a ha; let ⟨_, hc, e'⟩ := h2.1 _ hb; ⟨_, hc, e.trans e'⟩,
   fun c hc => let ⟨_, hb, e⟩ := h2.2 c hc; let ⟨_, ha, e'⟩ := h1.2 _ hb; ⟨_, ha, e'.trans e⟩⟩

end SameFields

end Java
end Pdlv
