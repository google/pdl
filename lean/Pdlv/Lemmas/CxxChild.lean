/-
  Pdlv.Lemmas.CxxChild — the model of the CHILD views the C++ back end emits (`Pdlv.Cxx.viewBody`: a valid parent view, the
  child's own fields parsed from the parent's payload, no constraint checked) against the reference `decode_full` of the
  child: everything the reference accepts is a valid view with the reference's values, and a valid view is either what the
  reference accepts, with the same values, or an input whose constraints do not hold (`ConstraintValue`).

  Both sides do the same thing at every level (the normal form of `decode_partial`, Lemmas/Dec: parse the own fields from all
  of the parent's payload, put the copied fields and the payload behind them) — the view with the struct parser
  (`viewItems_as_struct`), the reference with its decoder and, first, the constraint check.  One induction over the chain carries the three facts the theorems of C14 are
  read off from (`ChainInv`).
-/
import Pdlv.Lemmas.CxxView
import Pdlv.Lemmas.List
import Pdlv.Thm.C01

namespace Pdlv
namespace Cxx

open Py (ideal)
open Outcome

/-- the octets `decode_partial` parses a child from: the parent value's payload -/
def pbytesOf (pv : Value) : Bytes :=
  match pv.fields.lookup "payload" with
  | some (.arr vs) => vs.map fun v => UInt8.ofNat ((Value.asNat? v).getD 0)
  | _ => []

theorem decItems_payload_le (c : Cfg) : ∀ (is : Items) (bs r : Bytes) (st st' : DState),
    Pdlv.decItems c is bs st = .ok (st', r) → ∀ p, st'.payload = some p → st.payload = some p ∨ p.length ≤ bs.length := fun is => by
  induction is using Items.induction with
  | nil => rintro bs r st st' ⟨⟩ p hp; exact Or.inl hp
  | cons i is ih =>
    intro bs r st st' h p hp
    obtain ⟨st1, b1, h1, h2⟩ := decItems_cons_ok_iff.mp h
    have hcons := decItem_consumes h1
    rcases ih b1 r st1 st' h2 p hp with h3 | h3
    · cases i with
      | payload mode =>
        obtain ⟨p', rfl, hbs, _⟩ := decItem_payload_ok h1
        cases h3
        exact Or.inr (by rw [hbs, List.length_append]; omega)
      | _ => exact Or.inl (by rw [← (decItem_frame h1).2.1 rfl]; exact h3)
    · right; omega

/-- the payload octets read back from an assembled value are the recorded payload -/
theorem valueWith_payloadOctets_length {st : DState} {copied : List (String × Value)} (hF : st.fields.lookup "payload" = none)
    (hC : copied.lookup "payload" = none) : (st.valueWith copied).payloadOctets.length = (st.payload.getD []).length := by
  cases hp : st.payload <;>
    simp [DState.valueWith, Value.payloadOctets, Value.fields, List.lookup_append, hF, hC, hp, Value.ofBytes, List.lookup]

theorem copied_lookup_payload (pv : Value) (cs : List (String × Nat)) : (pv.copied cs).lookup "payload" = none :=
  (List.lookup_filter_key _ (fun k => k != "payload" && !(cs.any (·.1 == k))) (fun _ _ => rfl) "payload" pv.fields).trans (by simp)

section level
variable (c : Cfg) {items : Items}

/-- a level of a view: the struct parser on the own fields, the hazard slot handed through -/
theorem viewLevel_eq (hwi : vwfItems items items = true) (copied : List (String × Value)) (pb : Bytes) (phz : Option Hazard) :
    ((viewItems c items items false pb (DState.empty, phz)).bind fun ((st, hz), r) =>
        if !r.isEmpty then .err .trailingBytes
        else .ok (.obj (st.fields ++ copied ++ (match st.payload with
                                               | some p => [("payload", Value.ofBytes p)]
                                               | none => [])), hz)) =
      (Cxx.decItems c items items false pb DState.empty).bind fun (st, r) =>
        if r.isEmpty then .ok (st.valueWith copied, phz) else .err .trailingBytes := by
  simp only [viewItems_as_struct c items items hwi, bind_bind, ok_bind, ite_not_isEmpty]
  rfl

theorem level_ref (hwi : vwfItems items items = true) (pb : Bytes) (hpb : pb.length < usizeMax) :
    Refines (Cxx.decItems c items items false pb DState.empty) (Pdlv.decItems (ideal c) items pb DState.empty) :=
  have hwf := vwfItems_wfItems hwi
  items_ref c items (sizeField_wf items · items hwf) items hwf false pb DState.empty hpb

/-- the payload of the value a level hands on is cut from the octets the level was parsed from -/
theorem level_payload_le (hid : (itemsIds items).contains "payload" = false) (copied : List (String × Value))
    (hcp : copied.lookup "payload" = none) (pb r : Bytes) (st : DState)
    (hc : Pdlv.decItems (ideal c) items pb DState.empty = .ok (st, r)) :
    (st.valueWith copied).payloadOctets.length ≤ pb.length := by
  have hkeys := (decItems_frame hc).1.ids
  simp only [DState.empty, List.map_nil, List.nil_append] at hkeys
  rw [valueWith_payloadOctets_length (List.lookup_eq_none_of_not_mem_keys (by rw [hkeys]; simpa using hid)) hcp]
  cases hp : st.payload with
  | none => exact Nat.zero_le _
  | some p =>
    rcases decItems_payload_le (ideal c) items pb r DState.empty st hc p hp with h0 | h0
    · simp [DState.empty] at h0
    · exact h0

/-- C01 on a level: the reference's parser of the own fields has no hazard -/
theorem level_no_panic (hd : decWfItems [] items = true) (pb : Bytes) (z : Hazard) :
    Pdlv.decItems (ideal c) items pb DState.empty ≠ .panic z := by
  intro hq
  have := decode_no_panic_ideal c.e (.root "" items) hd pb
  simp only [ideal] at hq
  simp [Pdlv.decBody_root, hq] at this

end level

def ChainOk (c : Cfg) (b : Body) (bs : Bytes) : Prop :=
  (∀ v r, Pdlv.decBody (ideal c) b bs = .ok (v, r) → r.isEmpty = true → viewBody c b bs = .ok (v, none)) ∧
  (∀ v hz, viewBody c b bs = .ok (v, hz) → hz = none ∧
    ((∃ r, r.isEmpty = true ∧ Pdlv.decBody (ideal c) b bs = .ok (v, r)) ∨ Pdlv.decBody (ideal c) b bs = .err .constraintValue)) ∧
  (∀ v r, Pdlv.decBody (ideal c) b bs = .ok (v, r) → (pbytesOf v).length ≤ bs.length)


/-- what the induction over the chain carries: `ChainOk`, the bound on a valid view's payload, and (with C01's hypotheses)
    that no level reaches a hazard -/
def ChainInv (c : Cfg) (b : Body) (bs : Bytes) : Prop :=
  ChainOk c b bs ∧ (∀ v hz, viewBody c b bs = .ok (v, hz) → (pbytesOf v).length ≤ bs.length) ∧
    (decWfBody b = true → ∀ h, viewBody c b bs ≠ .panic h)

section root
variable (c : Cfg) (nm : String) {items : Items} (bs : Bytes) (hwi : vwfItems items items = true)
include hwi

theorem viewBody_root_eq : viewBody c (.root nm items) bs =
    (Cxx.decItems c items items false bs DState.empty).bind fun (st, r) =>
      if r.isEmpty then .ok (st.value, none) else .err .trailingBytes := by
  simp only [viewBody, viewItems_as_struct c items items hwi, bind_bind, ok_bind, ite_not_isEmpty]
  rfl

theorem viewBody_root_ok_iff {v : Value} {hz : Option Hazard} :
    viewBody c (.root nm items) bs = .ok (v, hz) ↔
      hz = none ∧ ∃ st, Cxx.decItems c items items false bs DState.empty = .ok (st, []) ∧ v = st.value := by
  rw [viewBody_root_eq c nm bs hwi]
  refine (whole_ok_iff fun st => (DState.value st, none)).trans ⟨?_, ?_⟩
  · rintro ⟨st, h1, h2⟩; cases h2; exact ⟨rfl, st, h1, rfl⟩
  · rintro ⟨rfl, st, h1, rfl⟩; exact ⟨st, h1, rfl⟩

end root

theorem chain_inv_root (c : Cfg) (nm : String) (items : Items) (hw : vwfChain (.root nm items) = true) (bs : Bytes)
    (hb : bs.length < usizeMax) : ChainInv c (.root nm items) bs := by
  simp only [vwfChain, Bool.and_eq_true, Bool.not_eq_true'] at hw
  obtain ⟨hwi, hid⟩ := hw
  have hV := @viewBody_root_ok_iff c nm items bs hwi
  have href := level_ref c hwi bs hb
  have hle : ∀ st r, Pdlv.decItems (ideal c) items bs DState.empty = .ok (st, r) → (pbytesOf st.value).length ≤ bs.length :=
    fun st r h1 => by
      have := level_payload_le c hid [] rfl bs r st h1
      simp only [DState.valueWith, List.append_nil] at this
      exact this
  refine ⟨⟨fun v r hd hr => ?_, fun v hz hp => ?_, fun v r hd => ?_⟩, fun v hz hp => ?_, fun hd h hp => ?_⟩
  · obtain ⟨st, h1, rfl⟩ := decBody_root_ok_iff.mp hd
    obtain rfl := List.isEmpty_iff.mp hr
    exact hV.mpr ⟨rfl, st, (href.1 _).mpr h1, rfl⟩
  · obtain ⟨rfl, st, h1, rfl⟩ := hV.mp hp
    exact ⟨rfl, Or.inl ⟨[], rfl, decBody_root_ok_iff.mpr ⟨st, (href.1 _).mp h1, rfl⟩⟩⟩
  · -- (the remainder plays no part in the value)
    obtain ⟨st, h1, rfl⟩ := decBody_root_ok_iff.mp hd
    exact hle st r h1
  · obtain ⟨rfl, st, h1, rfl⟩ := hV.mp hp
    exact hle st [] ((href.1 _).mp h1)
  · rw [viewBody_root_eq c nm bs hwi] at hp
    rcases bind_panic_iff.mp hp with hq | ⟨x, _, hx⟩
    · obtain ⟨z, hz⟩ := href.2 h hq
      exact level_no_panic c (by simpa [decWfBody] using hd) bs z hz
    · simp only at hx
      split at hx <;> cases hx

section derived
variable (c : Cfg) (nm : String) {parent : Body} (cs allCs : List (String × Nat)) {items : Items} (bs : Bytes)
  (hwi : vwfItems items items = true) (hpp : parent.hasPayload = true)
include hwi hpp

theorem viewBody_derived_eq : viewBody c (.derived nm parent cs allCs items) bs =
    (viewBody c parent bs).bind fun (pv, phz) =>
      if pv.payloadOctets.length ≥ usizeMax then .panic .badLayout
      else (Cxx.decItems c items items false pv.payloadOctets DState.empty).bind fun (st, r) =>
        if r.isEmpty then .ok (st.valueWith (pv.copied cs), phz) else .err .trailingBytes := by
  simp only [viewBody, hpp, ↓reduceIte]
  congr 1; funext x
  rw [← viewLevel_eq c hwi]
  unfold Value.payloadOctets Value.copied
  cases x.1.fields.lookup "payload" with
  | none => rfl
  | some y => cases y <;> rfl

theorem viewBody_derived_ok_iff {v : Value} {hz : Option Hazard} :
    viewBody c (.derived nm parent cs allCs items) bs = .ok (v, hz) ↔
      ∃ pv st, viewBody c parent bs = .ok (pv, hz) ∧ pv.payloadOctets.length < usizeMax ∧
        Cxx.decItems c items items false pv.payloadOctets DState.empty = .ok (st, []) ∧ v = st.valueWith (pv.copied cs) := by
  simp only [viewBody_derived_eq c nm cs allCs bs hwi hpp, bind_ok_iff, Prod.exists]
  constructor
  · rintro ⟨pv, phz, hpv, h⟩
    split at h
    · cases h
    · obtain ⟨st, h1, h2⟩ := (whole_ok_iff fun st => (DState.valueWith st (pv.copied cs), phz)).mp h
      cases h2; exact ⟨pv, st, hpv, Nat.not_le.mp ‹_›, h1, rfl⟩
  · rintro ⟨pv, st, hpv, hlt, h1, rfl⟩
    exact ⟨pv, hz, hpv, by
      rw [if_neg (Nat.not_le.mpr hlt)]
      exact (whole_ok_iff fun st => (DState.valueWith st (pv.copied cs), hz)).mpr ⟨st, h1, rfl⟩⟩

end derived

theorem chain_inv_step (c : Cfg) (nm : String) (parent : Body) (cs allCs : List (String × Nat)) (items : Items)
    (hw : vwfChain (.derived nm parent cs allCs items) = true) (bs : Bytes) (hb : bs.length < usizeMax)
    (ih : ChainInv c parent bs) : ChainInv c (.derived nm parent cs allCs items) bs := by
  simp only [vwfChain, Bool.and_eq_true, Bool.not_eq_true'] at hw
  obtain ⟨⟨⟨hwi, hid⟩, hpp⟩, _⟩ := hw
  obtain ⟨⟨ih1, ih2, ih3⟩, ih4, ih5⟩ := ih
  have hV := @viewBody_derived_ok_iff c nm parent cs allCs items bs hwi hpp
  -- the reference side: the parent's value, the constraints, the own fields from all of its payload
  have hD : ∀ {v r}, Pdlv.decBody (ideal c) (.derived nm parent cs allCs items) bs = .ok (v, r) ↔
      ∃ pv st, Pdlv.decBody (ideal c) parent bs = .ok (pv, r) ∧ violated parent pv cs = false ∧
        Pdlv.decItems (ideal c) items pv.payloadOctets DState.empty = .ok (st, []) ∧ v = st.valueWith (pv.copied cs) :=
    decBody_derived_ok_iff.trans ⟨fun ⟨pv, h, hp⟩ => let ⟨hv, st, h1, e⟩ := (decPartialWith_ok_iff hpp).mp hp; ⟨pv, st, h, hv, h1, e⟩,
      fun ⟨pv, st, h, hv, h1, e⟩ => ⟨pv, h, (decPartialWith_ok_iff hpp).mpr ⟨hv, st, h1, e⟩⟩⟩
  have href := fun (pv : Value) (h : pv.payloadOctets.length < usizeMax) => level_ref c hwi pv.payloadOctets h
  have hle := fun (pv : Value) st r h => level_payload_le c hid (pv.copied cs) (copied_lookup_payload pv cs) pv.payloadOctets r st h
  refine ⟨⟨fun v r hd hr => ?_, fun v hz hp => ?_, fun v r hd => ?_⟩, fun v hz hp => ?_, fun hd h hp => ?_⟩
  · obtain ⟨pv, st, hpd, _, h1, rfl⟩ := hD.mp hd
    have hlt : pv.payloadOctets.length < usizeMax := Nat.lt_of_le_of_lt (ih3 pv r hpd) hb
    exact hV.mpr ⟨pv, st, ih1 pv r hpd hr, hlt, ((href pv hlt).1 _).mpr h1, rfl⟩
  · obtain ⟨pv, st, hpv, hlt, h1, rfl⟩ := hV.mp hp
    obtain ⟨rfl, hpref⟩ := ih2 pv hz hpv
    refine ⟨rfl, ?_⟩
    rcases hpref with ⟨r0, hr0, hpd⟩ | hcv
    · cases hviol : violated parent pv cs with
      | true => exact Or.inr (by simp only [Pdlv.decBody_derived, hpd, ok_bind, Pdlv.decPartial, Pdlv.decPartialWith_eq, hviol, ↓reduceIte, err_bind])
      | false => exact Or.inl ⟨r0, hr0, hD.mpr ⟨pv, st, hpd, hviol, ((href pv hlt).1 _).mp h1, rfl⟩⟩
    · exact Or.inr (by simp only [Pdlv.decBody_derived, hcv, err_bind])
  · obtain ⟨pv, st, hpd, _, h1, rfl⟩ := hD.mp hd
    exact Nat.le_trans (hle pv st [] h1) (ih3 pv r hpd)
  · obtain ⟨pv, st, hpv, hlt, h1, rfl⟩ := hV.mp hp
    exact Nat.le_trans (hle pv st [] (((href pv hlt).1 _).mp h1)) (ih4 pv _ hpv)
  · simp only [decWfBody, Bool.and_eq_true] at hd
    rw [viewBody_derived_eq c nm cs allCs bs hwi hpp] at hp
    rcases bind_panic_iff.mp hp with hq | ⟨⟨pv, phz⟩, hpv, hx⟩
    · exact ih5 hd.1 h hq
    · have hlt : pv.payloadOctets.length < usizeMax := Nat.lt_of_le_of_lt (ih4 pv phz hpv) hb
      simp only [if_neg (Nat.not_le.mpr hlt)] at hx
      rcases bind_panic_iff.mp hx with hq | ⟨x, _, hx'⟩
      · obtain ⟨z, hz⟩ := (href pv hlt).2 h hq
        exact level_no_panic c hd.2 _ z hz
      · split at hx' <;> cases hx'

theorem chain_inv (c : Cfg) (b : Body) (hw : vwfChain b = true) (bs : Bytes) (hb : bs.length < usizeMax) : ChainInv c b bs := by
  induction b using Body.induction with
  | root nm items => exact chain_inv_root c nm items hw bs hb
  | derived nm parent cs allCs items ih =>
    exact chain_inv_step c nm parent cs allCs items hw bs hb (ih (by simp only [vwfChain, Bool.and_eq_true] at hw; exact hw.2))

theorem chain_ok (c : Cfg) : ∀ (b : Body), vwfChain b = true → ∀ (bs : Bytes), bs.length < usizeMax → ChainOk c b bs :=
  fun b hw bs hb => (chain_inv c b hw bs hb).1

theorem view_payload_le (c : Cfg) : ∀ (b : Body), vwfChain b = true → ∀ (bs : Bytes), bs.length < usizeMax →
    ∀ v hz, viewBody c b bs = .ok (v, hz) → (pbytesOf v).length ≤ bs.length :=
  fun b hw bs hb => (chain_inv c b hw bs hb).2.1

/-- no slice accessor is called beyond its slice anywhere along the chain: a hazard of the view parser of a level is a
    hazard of the reference's parser of that level's own fields on the same octets, which C01 excludes -/
theorem chain_no_panic (c : Cfg) : ∀ (b : Body), vwfChain b = true → decWfBody b = true → ∀ (bs : Bytes), bs.length < usizeMax →
    ∀ h, viewBody c b bs ≠ .panic h :=
  fun b hw hd bs hb => (chain_inv c b hw bs hb).2.2 hd

end Cxx
end Pdlv
