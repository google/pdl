/-
  Pdlv.Lemmas.JavaClass — the classes of the Java theorems read off field by field (`DecField2`, `DecField3`, `EncField`,
  `EncField3`: what `decWfItems2`, `decWfItems3`, `encWfItems`, `encWfItems3` demand of one field) with their inclusions, and
  the model with struct-typed fields (`Pdlv.JavaStruct`) on field lists that have none: there it computes what
  `Pdlv.Java.decItems` / `encItems` compute.
-/
import Pdlv.JavaStruct
import Pdlv.Lemmas.Outcome
import Pdlv.Lemmas.Layout

namespace Pdlv
namespace Java

inductive DecField2 : Item → Prop
  | chunk (fs : List BitField) : fs.all bfOkD = true → (chunkBits fs = 8 ∨ chunkBits fs = 16 ∨ chunkBits fs = 32) →
      DecField2 (.chunk fs)
  | payload (mode : PayloadMode) :
      (match mode with | .undelimited => false | .sized m => m == 0 | _ => true) = true → DecField2 (.payload mode)
  | scalars (id : String) (w : Nat) (shape : Shape) : (w = 8 ∨ w = 16 ∨ w = 32 ∨ w = 64) →
      DecField2 (.array id (.scalar w) (.static (w / 8)) shape none)
  | enums (id nm : String) (e : Enum.Decl) (shape : Shape) : (e.width = 8 ∨ e.width = 16 ∨ e.width = 32 ∨ e.width = 64) →
      DecField2 (.array id (.enumTy nm e) (.static (e.width / 8)) shape none)

theorem decWfItems2_cons (i : Item) (r : Items) : decWfItems2 (.cons i r) = true → DecField2 i ∧ decWfItems2 r = true := by
  -- one case per row of the class table, the overlapping catch-all row with what the rows before it exclude; `fun_cases`
  -- rewrites the predicate only where it stands in the goal, applied to a variable: hence `generalize` first, `intro` last
  generalize hx : Items.cons i r = x
  fun_cases decWfItems2 x <;> cases hx <;> intro h
  · simp only [Bool.and_eq_true, Bool.or_eq_true, beq_iff_eq, or_assoc] at h
    exact ⟨.chunk _ h.1.1 h.1.2, h.2⟩
  · simp only [Bool.and_eq_true] at h
    exact ⟨.payload _ h.1, h.2⟩
  · simp only [Bool.and_eq_true, Bool.or_eq_true, beq_iff_eq, or_assoc] at h
    obtain ⟨⟨hw, rfl⟩, hr⟩ := h
    exact ⟨.scalars _ _ _ hw, hr⟩
  · simp only [Bool.and_eq_true, Bool.or_eq_true, beq_iff_eq, or_assoc] at h
    obtain ⟨⟨hw, rfl⟩, hr⟩ := h
    exact ⟨.enums _ _ _ _ hw, hr⟩
  · cases h

theorem decItemS_eq (en : Endian) (i : Item) (hi : DecField2 i) (bs : Bytes) (st : DState) :
    decItemS en i bs st = decItem en i bs st := by
  cases hi <;> simp [decItemS]

theorem decItemsS_eq (en : Endian) : ∀ (is : Items), decWfItems2 is = true → ∀ (bs : Bytes) (st : DState),
    decItemsS en is bs st = decItems en is bs st := by
  intro is
  induction is using Items.induction with
  | nil => intro _ bs st; simp [decItemsS, decItems]
  | cons i r ih =>
    intro hw bs st
    obtain ⟨hi, hr⟩ := decWfItems2_cons i r hw
    simp only [decItemsS, decItems, decItemS_eq en i hi]
    cases decItem en i bs st with
    | ok a => exact ih hr a.2 a.1
    | _ => rfl

theorem decodeFullS_eq (c : Cfg) (nm : String) (items : Items) (hw : decWfItems2 items = true) (bs : Bytes) :
    decodeFullS c (.root nm items) bs = decodeFull c (.root nm items) bs := by
  simp only [decodeFullS, decodeFull, decItemsS_eq c.e items hw]
  rfl

inductive DecField3 : Item → Prop
  | base (i : Item) : DecField2 i → DecField3 i
  | struct (id nm snm : String) (sitems : Items) (k : Nat) : decWfItems2 sitems = true → sitems.hasPayload = false →
      staticItems sitems = some k → localWfItems sitems = true → DecField3 (.typedef id (.struct nm (.root snm sitems)) (some k))

theorem decWfItems3_cons (i : Item) (r : Items) : decWfItems3 (.cons i r) = true → DecField3 i ∧ decWfItems3 r = true := by
  generalize hx : Items.cons i r = x
  fun_cases decWfItems3 x <;> cases hx <;> intro h
  · simp only [Bool.and_eq_true, Bool.not_eq_true', beq_iff_eq] at h
    exact ⟨.struct _ _ _ _ _ h.1.1.1.1 h.1.1.1.2 h.1.1.2 h.1.2, h.2⟩
  · cases h
  · cases h
  · simp only [Bool.and_eq_true] at h
    exact ⟨.base _ (decWfItems2_cons _ _ h.1).1, h.2⟩

theorem decWfItems3_of_decWfItems2 : ∀ (is : Items), decWfItems2 is = true → decWfItems3 is = true := by
  intro is
  induction is using Items.induction with
  | nil => exact fun _ => rfl
  | cons i r ih =>
    intro hw
    have ih := ih (decWfItems2_cons i r hw).2
    -- the row of `decWfItems3` for a field without struct type asks for `decWfItems2` of the field alone
    have head : decWfItems2 (.cons i .nil) = true := by
      cases (decWfItems2_cons i r hw).1 <;> simp only [decWfItems2, Bool.and_eq_true, Bool.and_true] at hw ⊢ <;> exact hw.1
    cases (decWfItems2_cons i r hw).1 <;> simp only [decWfItems3, head, ih, Bool.and_self]

theorem encItems_single (en : Endian) (all : Items) (payload : Bytes) (v : Value) (i : Item) (r : Items) :
    encItems en all payload v (.cons i r) =
      (encItems en all payload v (.cons i .nil)).bind fun a => (encItems en all payload v r).bind fun b => .ok (a ++ b) := by
  simp only [encItems, Outcome.ok_bind, List.append_nil, Outcome.bind_ok_right]

inductive EncField : Item → Prop
  | chunk (fs : List BitField) : fs.all bfOkE = true → chunkBits fs ≤ 32 → EncField (.chunk fs)
  | payload (mode : PayloadMode) : EncField (.payload mode)
  | scalars (id : String) (w k : Nat) (shape : Shape) : w % 8 = 0 → 0 < w → w ≤ 64 →
      EncField (.array id (.scalar w) (.static k) shape none)
  | enums (id nm : String) (e : Enum.Decl) (k : Nat) (shape : Shape) : e.width % 8 = 0 → 0 < e.width → e.width ≤ 64 →
      EncField (.array id (.enumTy nm e) (.static k) shape none)

theorem encWfItems_cons (i : Item) (r : Items) : encWfItems (.cons i r) = true → EncField i ∧ encWfItems r = true := by
  generalize hx : Items.cons i r = x
  fun_cases encWfItems x <;> cases hx <;> intro h
  · simp only [Bool.and_eq_true, decide_eq_true_eq] at h
    exact ⟨.chunk _ h.1.1 h.1.2, h.2⟩
  · exact ⟨.payload _, h⟩
  · simp only [Bool.and_eq_true, decide_eq_true_eq] at h
    exact ⟨.scalars _ _ _ _ h.1.1.1 h.1.1.2 h.1.2, h.2⟩
  · simp only [Bool.and_eq_true, decide_eq_true_eq] at h
    exact ⟨.enums _ _ _ _ _ h.1.1.1 h.1.1.2 h.1.2, h.2⟩
  · cases h

theorem encItemS_eq (en : Endian) (all : Items) (payload : Bytes) (v : Value) (i : Item) (hi : EncField i) :
    encItemS en all payload v i = encItems en all payload v (.cons i .nil) := by
  cases hi <;> simp [encItemS]

theorem encItemsS_eq (en : Endian) (all : Items) (payload : Bytes) (v : Value) : ∀ (is : Items), encWfItems is = true →
    encItemsS en all payload v is = encItems en all payload v is := by
  intro is
  induction is using Items.induction with
  | nil => intro _; simp [encItemsS, encItems]
  | cons i r ih =>
    intro hw
    obtain ⟨hi, hr⟩ := encWfItems_cons i r hw
    rw [encItems_single en all payload v i r]
    simp only [encItemsS, encItemS_eq en all payload v i hi, ih hr]

theorem encBodyS_eq (c : Cfg) (nm : String) (items : Items) (hw : encWfItems items = true) (v : Value) :
    encBodyS c (.root nm items) v = encBody c (.root nm items) v := by
  simp only [encBodyS, encStructS, encBody]
  cases (if items.hasPayload = true then (v.get? "payload").bind valBytes else some []) with
  | none => rfl
  | some p => exact encItemsS_eq c.e items p v items hw

inductive EncField3 : Item → Prop
  | base (i : Item) : EncField i → EncField3 i
  | struct (id nm snm : String) (sitems : Items) (sb : Option Nat) : encWfItems sitems = true →
      EncField3 (.typedef id (.struct nm (.root snm sitems)) sb)

theorem encWfItems3_cons (i : Item) (r : Items) : encWfItems3 (.cons i r) = true → EncField3 i ∧ encWfItems3 r = true := by
  generalize hx : Items.cons i r = x
  fun_cases encWfItems3 x <;> cases hx <;> intro h
  · simp only [Bool.and_eq_true] at h
    exact ⟨.struct _ _ _ _ _ h.1, h.2⟩
  · cases h
  · cases h
  · simp only [Bool.and_eq_true] at h
    exact ⟨.base _ (encWfItems_cons _ _ h.1).1, h.2⟩

theorem encWfItems3_of_encWfItems : ∀ (is : Items), encWfItems is = true → encWfItems3 is = true := by
  intro is
  induction is using Items.induction with
  | nil => exact fun _ => rfl
  | cons i r ih =>
    intro hw
    have ih := ih (encWfItems_cons i r hw).2
    have head : encWfItems (.cons i .nil) = true := by
      cases (encWfItems_cons i r hw).1 <;> simp only [encWfItems, Bool.and_eq_true, Bool.and_true] at hw ⊢
      all_goals exact hw.1
    cases (encWfItems_cons i r hw).1 <;> simp only [encWfItems3, head, ih, Bool.and_self]

theorem bfOkE_of_bfOkJ (f : BitField) (h : bfOkJ f = true) : bfOkE f = true := by
  cases f <;> first | exact h | simp [bfOkJ] at h

theorem encWfItems_of_wfItems : ∀ (is : Items), wfItems is = true → encWfItems is = true := by
  intro is
  induction is using Items.induction with
  | nil => exact fun _ => rfl
  | cons i r ih =>
    intro hw
    cases i with
    | chunk fs =>
      simp only [wfItems, chunkWf, Bool.and_eq_true, List.all_eq_true] at hw
      simp only [encWfItems, Bool.and_eq_true, List.all_eq_true]
      exact ⟨⟨fun f hf => bfOkE_of_bfOkJ f (hw.1.1 f hf), hw.1.2⟩, ih hw.2⟩
    | _ => simp [wfItems] at hw

end Java
end Pdlv
