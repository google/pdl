/-
  Pdlv.Lemmas.RefConv — the converse of C03's main theorem: whenever the bit-level reference assigns an
  encoding to a value, the reference-mode encoder succeeds (and, by the forward theorem, writes it).
  Every check of the encoder is reflected in `Pdlv.Ref`: one bit-field (`bfEnc_conv`), one group (`chunk_conv`),
  one item (`item_conv`), every level of a layout (`conv_all`).
-/
import Pdlv.Thm.C03
import Pdlv.Lemmas.Layout

namespace Pdlv
open Ref

/-- what an entry of the reference's array table says about the value and the field list -/
def RefFacts (c : Cfg) (all : Items) (v : Value) (arrs : List ArrInfo) : Prop :=
  ∀ t a, lookupArr arrs t = some a →
    ∃ elem ew vs es, firstArray all t = some (elem, ew) ∧ v.get? t = some (.arr vs) ∧ a.count = vs.length ∧
      a.elemLens = vs.map (lenTy elem) ∧ a.bytes.length = sumLen (lenTy elem) vs ∧
      encListWith (encTy c elem) vs = .ok es

open Outcome

/-- `emit w x = some bits` in `chunkBitsOf`: `x` fits, the rest of the group has bits, and `bits` is both -/
theorem emit_some_iff {w x : Nat} {r : Option (List Bool)} {bits : List Bool} :
    (if fits w x then r.map (bitsOf w x ++ ·) else none) = some bits ↔
      x < 2 ^ w ∧ ∃ b, r = some b ∧ bits = bitsOf w x ++ b := by
  simp only [fits, decide_eq_true_eq, Option.ite_none_right_eq_some, Option.map_eq_some_iff]
  exact and_congr_right fun _ => exists_congr fun _ => and_congr_right fun _ => eq_comm

theorem bfEnc_conv (c : Cfg) (all : Items) (pl : Nat) (v : Value) (arrs : List ArrInfo) (H : RefFacts c all v arrs)
    (f : BitField) (fs : List BitField) (bits : List Bool) (hbf : bfOk f = true) (hnw : bfNarrow f = true)
    (h : chunkBitsOf arrs pl v (f :: fs) = some bits) :
    ∃ x b, bfEnc true all pl v f = .ok x ∧ chunkBitsOf arrs pl v fs = some b := by
  cases f with
  | scalar id w =>
    rw [chunkBitsOf] at h
    split at h
    · rename_i x hget
      obtain ⟨hlt, b, hb, _⟩ := emit_some_iff.mp h
      exact ⟨x, b, bfEnc_scalar_ok_iff.mpr ⟨hget, lt_backing (of_decide_eq_true hnw) hlt, hlt⟩, hb⟩
    · cases h
  | enumTy id ty e =>
    rw [chunkBitsOf] at h
    split at h
    · rename_i x hget
      split at h
      · rename_i hok
        obtain ⟨_, b, hb, _⟩ := emit_some_iff.mp h
        exact ⟨x, b, bfEnc_enumTy_ok_iff.mpr ⟨hget, hok⟩, hb⟩
      · cases h
    · cases h
  | fixed w cst => rw [chunkBitsOf] at h; obtain ⟨_, b, hb, _⟩ := emit_some_iff.mp h; exact ⟨cst, b, rfl, hb⟩
  | reserved w => rw [chunkBitsOf] at h; obtain ⟨_, b, hb, _⟩ := emit_some_iff.mp h; exact ⟨0, b, rfl, hb⟩
  | flag id opts =>
    have hval := bfOk_flag hbf
    cases opts with
    | nil => rw [chunkBitsOf] at h; cases h
    | cons o rs =>
      obtain ⟨oid, setv⟩ := o
      rw [chunkBitsOf] at h
      generalize hbit : (if isPresent v oid = true then setv else 1 - setv) = bit at h
      split at h
      · rename_i hall
        obtain ⟨_, b, hb, _⟩ := emit_some_iff.mp h
        have hb1 : bit ≤ 1 := hbit ▸ vote_le_one (v := v) (hval (oid, setv) (List.mem_cons_self ..))
        exact ⟨bit, b, (bfEnc_flag_ok_iff hval).mpr ⟨List.cons_ne_nil _ _, (flag_all_iff v _ _ hval hb1).mp hall⟩, hb⟩
      · cases h
  | size t w m =>
    have hnb := bfOk_size hbf
    rw [chunkBitsOf] at h
    split at h
    · rename_i htp
      cases eq_of_beq htp
      obtain ⟨hlt, b, hb, _⟩ := emit_some_iff.mp h
      exact ⟨_, b, bfEnc_size_ok_iff.mpr ⟨pl, sizeOfTarget_payload all pl v, rfl, hlt⟩, hb⟩
    · rename_i htp
      have htp : t ≠ "_payload_" := fun h => htp (beq_iff_eq.mpr h)
      split at h
      · rename_i a ha
        obtain ⟨hlt, b, hb, _⟩ := emit_some_iff.mp h
        obtain ⟨elem, ew, vs, es, hfa, hget, _, _, hlen, _⟩ := H t a ha
        exact ⟨_, b, bfEnc_size_ok_iff.mpr ⟨_, (sizeOfTarget_array htp hnb).mpr ⟨elem, ew, vs, hfa, hget, hlen⟩, rfl, hlt⟩,
          hb⟩
      · cases h
  | count t w =>
    rw [chunkBitsOf] at h
    split at h
    · rename_i a ha
      obtain ⟨hlt, b, hb, _⟩ := emit_some_iff.mp h
      obtain ⟨elem, ew, vs, es, _, hget, hcnt, _, _, _⟩ := H t a ha
      exact ⟨_, b, (bfEnc_count_ok_iff (of_decide_eq_true hnw)).mpr ⟨vs, hget, hcnt, hlt⟩, hb⟩
    · cases h
  | elemSize t w =>
    rw [chunkBitsOf] at h
    split at h
    · rename_i a ha
      split at h
      · rename_i hall
        obtain ⟨hlt, b, hb, _⟩ := emit_some_iff.mp h
        obtain ⟨elem, ew, vs, es, hfa, hget, _, hlens, _, _⟩ := H t a ha
        rw [hlens] at hall hlt
        obtain ⟨h1, h2⟩ := (allEq_map_iff (lenTy elem) vs _).mp ⟨hall, rfl⟩
        exact ⟨_, b, bfEnc_elemSize_ok_iff.mpr ⟨vs, elem, ew, hget, hfa, h1, h2, hlens ▸ hlt⟩, hb⟩
      · cases h
    · cases h

/-- one bit-field group: if the reference assigns bits, every check of the encoder passes -/
theorem chunk_conv (c : Cfg) (all : Items) (pl : Nat) (v : Value) (arrs : List ArrInfo) (H : RefFacts c all v arrs) :
    ∀ (fs : List BitField) (bits : List Bool) (shift acc : Nat),
      (∀ f ∈ fs, bfOk f = true ∧ bfNarrow f = true) →
      chunkBitsOf arrs pl v fs = some bits → ∃ X, encChunkFields true all pl v fs shift acc = .ok X := by
  intro fs bits shift acc hok h
  -- the group is `packInt` of its field values: neither shift nor accumulator take part
  have hN : ∃ N, packInt (bfEnc true all pl v) fs = .ok N := by
    induction fs generalizing bits with
    | nil => exact ⟨0, rfl⟩
    | cons f fs ih =>
      obtain ⟨hbf, hnw⟩ := hok f (List.mem_cons_self ..)
      obtain ⟨x, b, hx, hb⟩ := bfEnc_conv c all pl v arrs H f fs bits hbf hnw h
      obtain ⟨N, hN⟩ := ih b (fun g hg => hok g (List.mem_cons_of_mem _ hg)) hb
      exact ⟨_, packInt_cons_ok_iff.mpr ⟨x, N, hx, hN, rfl⟩⟩
  obtain ⟨N, hN⟩ := hN
  exact ⟨_, by rw [encChunkFields_eq, hN]; rfl⟩

theorem encListWith_of_encElems (W : Value → Enc Bytes) (R : Value → Option Bytes) (g : Value → Nat)
    (h : ∀ x b, R x = some b → W x = .ok b ∧ b.length = g x) :
    ∀ (vs : List Value) (bs : Bytes) (ls : List Nat), encElems R vs = some (bs, ls) →
      encListWith W vs = .ok bs ∧ ls = vs.map g := by
  intro vs
  induction vs with
  | nil => intro bs ls he; cases he; exact ⟨rfl, rfl⟩
  | cons x xs ih =>
    intro bs ls he
    simp only [encElems] at he
    split at he
    · rename_i a b l hx hr
      cases he
      obtain ⟨q1, q2⟩ := h x a hx
      obtain ⟨r1, r2⟩ := ih b l hr
      exact ⟨encListWith_cons_ok_iff.mpr ⟨a, b, q1, r1, rfl⟩, by rw [q2, r2]; rfl⟩
    · cases he

/-- one item, conversely: what the reference encodes the encoder encodes, given the same of the values the item
    holds (`hty`) -/
theorem item_conv (c : Cfg) (hm : c.mode = .ideal) (all : Items) (p : Bytes) (v : Value) (arrs : List ArrInfo)
    (H : RefFacts c all v arrs) (hnd : (arrayIds all).Nodup) (i : Item)
    (hty : ∀ ty, i.ty? = some ty → convWfTy ty = true → ∀ x bs, Ref.encTy c.e ty x = some bs → encTy c ty x = .ok bs)
    (hw : convWfItem i = true) (hr : refWfItem all i = true) (hl : lenWfItem i = true)
    (harr : ∀ id elem ew sh pad, i = .array id elem ew sh pad → (id, elem, ew) ∈ arrayItems all) (a : Bytes)
    (hi : Ref.encItem c.e arrs p v i = some a) : ∃ a', encItem c all (.ok p) p.length v i = .ok a' := by
  cases i with
  | chunk fs =>
    obtain ⟨bits, hbits, _⟩ := Option.map_eq_some_iff.mp hi
    simp only [convWfItem, List.all_eq_true] at hw
    simp only [refWfItem, Bool.and_eq_true, List.all_eq_true] at hr
    obtain ⟨X, hX⟩ := chunk_conv c all p.length v arrs H fs bits 0 0 (fun f hf => ⟨(hr.2 f hf).1, hw f hf⟩) hbits
    exact ⟨_, encItem_chunk_ok_iff.mpr ⟨X, by simpa [hm] using hX, rfl⟩⟩
  | typedef id ty sb =>
    simp only [Ref.encItem] at hi
    split at hi
    · rename_i x hg; exact ⟨a, encItem_typedef_ok_iff.mpr ⟨x, hg, hty ty rfl hw x a hi⟩⟩
    · cases hi
  | optional id ty cid cval =>
    cases hp : isPresent v id with
    | false => exact ⟨[], encItem_optional_absent hp⟩
    | true =>
      obtain ⟨x, hx, hn⟩ := isPresent_true_iff.mp hp
      rw [refItem_optional_present hx hn] at hi
      exact ⟨a, by rw [encItem_optional_ideal hm hx hn]; exact hty ty rfl hw x a hi⟩
  | payload md => exact ⟨p, rfl⟩
  | array id elem ew shape pad =>
    simp only [lenWfItem, Bool.and_eq_true] at hl
    obtain ⟨ai, hla, hcnt, hpadle, _⟩ := refItem_array_some_iff.mp hi
    obtain ⟨el, ew', vs, es, f1, f2, f3, f4, f5, f6⟩ := H id ai hla
    cases (firstArray_of_mem all id elem ew (harr _ _ _ _ _ rfl) hnd).symm.trans f1
    have hlen := encList_len_arrSize c elem ew hl vs es f6
    have hes : es.length = ai.bytes.length :=
      f5 ▸ encListWith_length (encTy c elem) (lenTy elem) (fun x b hx => encTy_len c elem x b hl.2 hx) vs es f6
    exact ⟨_, encItem_array_ok_iff.mpr ⟨vs, es, f2, fun k hk => f3 ▸ hcnt k hk,
      fun q hq => hlen ▸ hes ▸ hpadle q hq, f6, padTo_ok_iff.mpr ⟨fun q hq => hes ▸ hpadle q hq, rfl⟩⟩⟩

/-- the converse at every level of a layout: types; field lists (the array table, then the items against a
    table); a struct body as the type it is -/
theorem conv_all (c : Cfg) (hm : c.mode = .ideal) :
    (∀ ty, convWfTy ty = true → ∀ x bs, Ref.encTy c.e ty x = some bs → encTy c ty x = .ok bs) ∧
    (∀ is,
      (∀ v arrs, convWfItems is = true → lenWfItems is = true → Ref.arrays c.e is v = some arrs →
        RefFacts c is v arrs) ∧
      (∀ all p v arrs, RefFacts c all v arrs → (arrayIds all).Nodup → ∀ bs, convWfItems is = true →
        refWfItems all is = true → lenWfItems is = true → (∀ t ∈ arrayItems is, t ∈ arrayItems all) →
        Ref.encItems c.e arrs p v is = some bs → ∃ bs', encItems c all (.ok p) p.length v is = .ok bs')) ∧
    (∀ b, convWfTy (.struct "" b) = true → ∀ x bs, Ref.encBody c.e b x none = some bs → encBody c b x = .ok bs) := by
  apply Layout.induction₃
  case scalar =>
    intro w hw x bs h
    simp only [convWfTy, Bool.and_eq_true, beq_iff_eq, decide_eq_true_eq] at hw
    obtain ⟨n, rfl, hf, rfl⟩ := refTy_int_inv h
    have hlt : n < 2 ^ w := of_decide_eq_true hf
    exact encTy_scalar_ok_iff.mpr ⟨n, rfl, lt_backing hw.2 hlt, hm ▸ elemOutOfRange_ideal_iff.mpr ((le_maskBits_iff w n).mpr hlt),
      intBytes_ref c.e w n hw.1⟩
  case enumTy =>
    intro nm en hw x bs h
    simp only [convWfTy, beq_iff_eq] at hw
    obtain ⟨n, rfl, hok, rfl⟩ := refTy_int_inv h
    exact encTy_enumTy_ok_iff.mpr ⟨n, rfl, hok, intBytes_ref c.e en.width n hw⟩
  case custom =>
    intro nm w hw x bs h
    simp only [convWfTy, beq_iff_eq] at hw
    obtain ⟨n, rfl, hf, rfl⟩ := refTy_int_inv h
    exact encTy_custom_ok_iff.mpr ⟨n, rfl, of_decide_eq_true hf, intBytes_ref c.e w n hw⟩
  case struct =>
    intro nm b ih hw x bs h
    simp only [encTy]
    cases b with
    | root nm' items => exact ih hw x bs h
    | derived => cases hw
  case nil =>
    refine ⟨fun v arrs _ _ h t a ha => ?_, fun _ _ _ _ _ _ _ _ _ _ _ _ => ⟨[], rfl⟩⟩
    cases h; cases ha
  case cons =>
    intro i r hty ⟨iha, ihi⟩
    refine ⟨fun v arrs hw hl h => ?_, fun all p v arrs H hnd bs hw hr hl harr h => ?_⟩
    · simp only [convWfItems, Bool.and_eq_true] at hw
      simp only [lenWfItems, Bool.and_eq_true] at hl
      cases i with
      | array id elem ew shape pad =>
        simp only [convWfItem] at hw
        simp only [lenWfItem, Bool.and_eq_true] at hl
        have hel := hty elem rfl hw.1
        simp only [Ref.arrays] at h
        split at h
        · rename_i vs hg
          split at h
          · rename_i bs ls t he hr
            cases h
            obtain ⟨q1, q2⟩ := encListWith_of_encElems (encTy c elem) (Ref.encTy c.e elem) (lenTy elem)
              (fun x b hx => ⟨hel x b hx, encTy_len c elem x b hl.1.2 (hel x b hx)⟩) vs bs ls he
            intro t' a ha
            simp only [lookupArr, List.find?_cons] at ha
            simp only [firstArray]
            split at ha
            · rename_i hid
              cases ha
              have hid' : id = t' := by simpa using hid
              exact ⟨elem, ew, vs, bs, by simp [hid], hid' ▸ hg, rfl, q2,
                encListWith_length (encTy c elem) (lenTy elem) (fun x b hx => encTy_len c elem x b hl.1.2 hx) vs bs q1, q1⟩
            · rename_i hid
              obtain ⟨el, ew', vs', es', f1, f2⟩ := iha v t hw.2 hl.2 hr t' a ha
              exact ⟨el, ew', vs', es', by simp only [hid, Bool.false_eq_true, ↓reduceIte]; exact f1, f2⟩
          · cases h
        · cases h
      | _ => exact iha v arrs hw.2 hl.2 h
    · simp only [convWfItems, Bool.and_eq_true] at hw
      simp only [refWfItems, Bool.and_eq_true] at hr
      simp only [lenWfItems, Bool.and_eq_true] at hl
      simp only [Ref.encItems] at h
      split at h
      · rename_i a b hi hrest
        obtain ⟨b', hb'⟩ := ihi all p v arrs H hnd b hw.2 hr.2 hl.2 (fun t ht => harr t (arrayItems_tail i r t ht)) hrest
        obtain ⟨a', ha'⟩ := item_conv c hm all p v arrs H hnd i hty hw.1 hr.1 hl.1
          (fun _ _ _ _ _ hi => harr _ (by subst hi; exact List.mem_cons_self ..)) a hi
        exact ⟨a' ++ b', encItems_cons_ok_iff.mpr ⟨a', b', ha', hb', rfl⟩⟩
      · cases h
  case root =>
    intro nm items ⟨iha, ihi⟩ hw x bs h
    simp only [convWfTy, Bool.and_eq_true, decide_eq_true_eq] at hw
    obtain ⟨⟨⟨hcw, hrw⟩, hlw⟩, hnd⟩ := hw
    simp only [Ref.encBody] at h
    split at h
    · rename_i p arrs hp ha
      obtain ⟨bs', hb'⟩ := ihi items p x arrs (iha x arrs hcw hlw ha) hnd bs hcw hrw hlw (fun t ht => ht) h
      have hb : encBody c (.root nm items) x = .ok bs' := encBody_root_ok_iff.mpr ⟨p, hp, hb'⟩
      -- the forward theorem: the bytes are the reference's
      have hfw := (ref_all c hm).2.2 (.root nm items) (by simp [refWfTy, hrw, hlw, hnd]) x bs' hb
      simp only [Ref.encBody, hp, ha] at hfw
      rw [hb, Option.some.inj (hfw.symm.trans h)]
    · cases h
  case derived => intro _ _ _ _ _ _ _ hw; cases hw

theorem ty_conv (c : Cfg) (hm : c.mode = .ideal) : ∀ (ty : Ty) (x : Value) (bs : Bytes), convWfTy ty = true →
    Ref.encTy c.e ty x = some bs → encTy c ty x = .ok bs :=
  fun ty x bs hw => (conv_all c hm).1 ty hw x bs

/-- the reference's array table says what the encoder will find -/
theorem arrays_conv (c : Cfg) (hm : c.mode = .ideal) : ∀ (is : Items) (v : Value) (arrs : List ArrInfo),
    convWfItems is = true → lenWfItems is = true → Ref.arrays c.e is v = some arrs → RefFacts c is v arrs :=
  fun is => ((conv_all c hm).2.1 is).1

theorem items_conv (c : Cfg) (hm : c.mode = .ideal) (all : Items) (p : Bytes) (v : Value) (arrs : List ArrInfo)
    (H : RefFacts c all v arrs) (hnd : (arrayIds all).Nodup) :
    ∀ (is : Items) (bs : Bytes), convWfItems is = true → refWfItems all is = true → lenWfItems is = true →
      (∀ t ∈ arrayItems is, t ∈ arrayItems all) →
      Ref.encItems c.e arrs p v is = some bs → ∃ bs', encItems c all (.ok p) p.length v is = .ok bs' :=
  fun is => ((conv_all c hm).2.1 is).2 all p v arrs H hnd

end Pdlv
