/-
  Pdlv.Lemmas.CxxSer — the model of the serializer the C++ back end emits (`Pdlv.Cxx.encBody`) writes,
  for every value the reference-mode encoder accepts, exactly the bytes the reference-mode encoder
  writes (hence, by C03, `Ref.encode`): it performs NO check at all, and never different arithmetic on
  the values the reference admits.
-/
import Pdlv.Cxx
import Pdlv.Lemmas.PySer

namespace Pdlv
namespace Cxx

open Outcome

/-- the value one bit-field contributes to its group in the emitted `Serialize` -/
def bfEnc (items : Items) (pl : Nat) (v : Value) : BitField → Enc Nat
  | .scalar id w => (natField v id).bind fun x => if x ≥ 2 ^ backingOf w then .panic .badValue else .ok (x % 2 ^ w)
  | .flag _ opts => flagValue v opts
  | .enumTy id _ e => (natField v id).bind fun x => if x < 2 ^ e.width then .ok x else .panic .badLayout
  | .fixed _ c => .ok c
  | .reserved _ => .ok 0
  | .size t w m => (sizeOfTarget items t pl v).bind fun s => if s + m > maskBits w then .panic .badLayout else .ok (s + m)
  | .count t w => (listField v t).bind fun vs => if vs.length > maskBits w then .panic .badLayout else .ok vs.length
  | .elemSize _ _ => .panic .badLayout

theorem encChunkFields_eq (items : Items) (pl : Nat) (v : Value) (fs : List BitField) (shift acc : Nat) :
    Cxx.encChunkFields items pl v fs shift acc = (packInt (bfEnc items pl v) fs).bind fun N => .ok (acc + 2 ^ shift * N) := by
  refine packInt_eq _ _ (fun _ _ => rfl) (fun f fs s a => ?_) fs shift acc
  cases f <;> simp only [Cxx.encChunkFields, bfEnc, bind_bind, ite_bind] <;> rfl

def serWfBf : BitField → Bool
  | .elemSize .. => false
  | .scalar _ w => decide (w ≤ 64)
  | .enumTy _ _ e => decide (e.width ≤ 64)
  | .count _ w => decide (w ≤ 64)
  | .flag _ opts => opts.length == 1 && opts.all (fun o => decide (o.2 ≤ 1))
  | _ => true

/-- field by field, on what the reference admits the unchecked C++ arithmetic is the reference's -/
theorem bfEnc_ideal_to_cxx (all : Items) (pl : Nat) (v : Value) (f : BitField) (hw : serWfBf f = true) :
    OkLe (Pdlv.bfEnc true all pl v f) (bfEnc all pl v f) := by
  cases f with
  | scalar id w =>
    intro a ha
    obtain ⟨hg, hb, hlt⟩ := bfEnc_scalar_ok_iff.mp ha
    simp only [bfEnc, natField_ok_iff.mpr hg, ok_bind, if_neg (Nat.not_le.mpr hb), Nat.mod_eq_of_lt hlt]
  | flag id opts =>
    cases opts with
    | nil => exact OkLe.rfl
    | cons o r =>
      cases r with
      | cons _ _ => simp [serWfBf] at hw
      | nil =>
        obtain ⟨o, setv⟩ := o
        intro a ha
        simp only [Pdlv.bfEnc] at ha
        split at ha
        · cases ha
        · simp only [bfEnc, flagValue, show (if setv = 0 then 1 else 0) = 1 - setv by split <;> omega]; exact ha
  | enumTy id ty e =>
    intro a ha
    obtain ⟨hg, hok⟩ := bfEnc_enumTy_ok_iff.mp ha
    simp only [bfEnc, natField_ok_iff.mpr hg, ok_bind, if_pos (enumOk_lt e a hok)]
  | fixed _ _ | reserved _ => exact OkLe.rfl
  | size t w m =>
    intro a ha
    obtain ⟨s, hs, rfl, hlt⟩ := bfEnc_size_ok_iff.mp ha
    simp only [bfEnc, hs, ok_bind, if_neg ((le_maskBits_iff w _).mpr hlt)]
  | count t w =>
    intro a ha
    obtain ⟨vs, hg, rfl, hlt⟩ := (bfEnc_count_ok_iff (of_decide_eq_true hw)).mp ha
    simp only [bfEnc, listField_ok_iff.mpr hg, ok_bind, if_neg ((le_maskBits_iff w _).mpr hlt)]
  | elemSize t w => simp [serWfBf] at hw

theorem serWfItem_chunk (all : Items) (fs : List BitField) : serWfItem all (.chunk fs) = fs.all serWfBf := by
  simp only [serWfItem]; congr 1

/-- with a flag that governs this field alone, the flag expression says whether the field is present -/
theorem encItem_optional_eq (c : Cfg) (all : Items) (p : Bytes) (v : Value) (id : String) (ty : Ty) (cid : String) (cval : Nat)
    (hfo : flagOpts cid all = some [(id, cval)]) :
    Cxx.encItem c all p v (.optional id ty cid cval) =
      match v.get? id with
      | some .null | none => .ok []
      | some x => Cxx.encTy c ty x := by
  have habs : ¬ ((if cval = 0 then 1 else 0) = cval) := by split <;> omega
  cases hg : v.get? id with
  | none => simp only [Cxx.encItem, hfo, flagValue, ok_bind, isPresent, hg, Bool.false_eq_true, ↓reduceIte, habs]
  | some x => cases x <;> simp only [Cxx.encItem, hfo, flagValue, ok_bind, isPresent, hg, Bool.false_eq_true, ↓reduceIte, habs]

theorem le_all (c : Cfg) :
    (∀ ty, serWfTy ty = true → ∀ v, OkLe (Pdlv.encTy { e := c.e, mode := .ideal } ty v) (Cxx.encTy c ty v)) ∧
    (∀ i (all : Items), serWfItem all i = true → ∀ (p : Bytes) (v : Value),
      OkLe (Pdlv.encItem { e := c.e, mode := .ideal } all (.ok p) p.length v i) (Cxx.encItem c all p v i)) ∧
    (∀ is (all : Items), serWfItems all is = true → ∀ (p : Bytes) (v : Value),
      OkLe (Pdlv.encItems { e := c.e, mode := .ideal } all (.ok p) p.length v is) (Cxx.encItems c all p v is)) ∧
    (∀ b, serWfBody b = true → ∀ v, OkLe (Pdlv.encBody { e := c.e, mode := .ideal } b v) (Cxx.encBody c b v)) := by
  apply Layout.induction
  case scalar =>
    intro w _ v a ha
    obtain ⟨x, rfl, hb, ho, rfl⟩ := encTy_scalar_ok_iff.mp ha
    simp only [Cxx.encTy, if_neg (Nat.not_le.mpr hb),
      Nat.mod_eq_of_lt ((le_maskBits_iff w x).mp (elemOutOfRange_ideal_iff.mp ho))]
  case enumTy =>
    intro nm en hw v a ha
    obtain ⟨x, rfl, hok, rfl⟩ := encTy_enumTy_ok_iff.mp ha
    have hlt := enumOk_lt en x hok
    simp only [Cxx.encTy, if_neg (Nat.not_le.mpr (lt_backing (of_decide_eq_true hw) hlt)), Nat.mod_eq_of_lt hlt]
  case custom => intro nm w hw; simp [serWfTy] at hw
  case struct =>
    intro nm b ih hw v
    cases b with
    | root nm items => exact ih hw v
    | derived => simp [serWfTy] at hw
  case chunk =>
    intro fs all hw p v
    exact OkLe.bind (encChunkFields_eq all p.length v fs 0 0 ▸
      encChunkFields_okLe (bfEnc_ideal_to_cxx all p.length v) fs (serWfItem_chunk all fs ▸ hw) 0 0) fun _ _ => OkLe.rfl
  case typedef =>
    intro id ty sb ih all hw p v
    simp only [Pdlv.encItem, Cxx.encItem]
    cases v.get? id with
    | none => exact OkLe.rfl
    | some x => exact ih hw x
  case optional =>
    intro id ty cid cval ih all hw p v
    simp only [serWfItem, Bool.and_eq_true, beq_iff_eq, decide_eq_true_eq] at hw
    rw [encItem_optional_eq_of_ideal, encItem_optional_eq c all p v id ty cid cval hw.1.2]
    cases v.get? id with
    | none => exact OkLe.rfl
    | some x => cases x <;> first | exact OkLe.rfl | exact ih hw.1.1 _
  case payload => intro m all _ p v; exact OkLe.rfl
  case array =>
    intro id elem ew shape pd ih all hw p v
    -- cxx.rs has the count check (`checkCount`: the array type) and no padding check (`checkPad`)
    exact OkLe.bind OkLe.rfl fun vs _ => OkLe.bind OkLe.rfl fun _ _ => (OkLe.drop_check _ _).trans
      (OkLe.bind (encListWith_okLe (ih hw) vs) fun bs _ => Py.padTo_le_pad pd bs)
  case nil => intro all _ p v; exact OkLe.rfl
  case cons =>
    intro i r ihi ihr all hw p v
    simp only [serWfItems, Bool.and_eq_true] at hw
    exact OkLe.bind (ihi all hw.1 p v) fun _ _ => OkLe.bind (ihr all hw.2 p v) fun _ _ => OkLe.rfl
  case root =>
    intro nm items ih hw v
    simp only [Pdlv.encBody, Cxx.encBody]
    generalize (if items.hasPayload = true then (v.get? "payload").bind valBytes else some []) = o
    cases o with
    | none => exact OkLe.rfl
    | some p => exact ih items hw p v
  case derived => intro nm parent cs allCs items _ _ hw; simp [serWfBody] at hw

theorem ty_ideal_to_cxx (c : Cfg) : ∀ (ty : Ty) (v : Value) (bs : Bytes), serWfTy ty = true →
    Pdlv.encTy { e := c.e, mode := .ideal } ty v = .ok bs → Cxx.encTy c ty v = .ok bs :=
  fun ty v bs hw => (le_all c).1 ty hw v bs

theorem item_ideal_to_cxx (c : Cfg) (all : Items) (p : Bytes) (v : Value) : ∀ (i : Item) (bs : Bytes), serWfItem all i = true →
    Pdlv.encItem { e := c.e, mode := .ideal } all (.ok p) p.length v i = .ok bs → Cxx.encItem c all p v i = .ok bs :=
  fun i bs hw => (le_all c).2.1 i all hw p v bs

theorem items_ideal_to_cxx (c : Cfg) (all : Items) (p : Bytes) (v : Value) : ∀ (is : Items) (bs : Bytes),
    serWfItems all is = true → Pdlv.encItems { e := c.e, mode := .ideal } all (.ok p) p.length v is = .ok bs →
      Cxx.encItems c all p v is = .ok bs :=
  fun is bs hw => (le_all c).2.2.1 is all hw p v bs

theorem body_ideal_to_cxx (c : Cfg) : ∀ (b : Body) (v : Value) (bs : Bytes), serWfBody b = true →
    Pdlv.encBody { e := c.e, mode := .ideal } b v = .ok bs → Cxx.encBody c b v = .ok bs :=
  fun b v bs hw => (le_all c).2.2.2 b hw v bs

end Cxx
end Pdlv
