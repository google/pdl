/-
  Pdlv.Lemmas.Outcome — how `Outcome.bind` computes and how an equation `x.bind f = …` is inverted
  (every decoder and encoder of the model is a chain of binds and guards).  The lemmas are stated on
  `x.bind f`, the way the model is written: on a `do` block or `>>=` they apply only through definitional
  unfolding (`exact bind_ok_iff.mp h`), not as rewrite rules.
  "No panic" is `o.isPanic = false` here (`isPanic_bind`, `isPanic_ite`, `isPanic_guard`); Thm/C01 has the
  mode-indexed `Safe m o` with `Safe.bind` / `Safe.ite` and the bridges `safe_ideal_iff`, `safe_of_not_panic`;
  Lemmas/Refines states it as `∀ h, o ≠ .panic h` (`Refines.no_panic`, from `isPanic = false`).
-/
import Pdlv.Wire

namespace Pdlv
namespace Outcome

variable {ε α β : Type}

@[simp] theorem ok_bind (a : α) (f : α → Outcome ε β) : (ok a).bind f = f a := rfl
@[simp] theorem err_bind (e : ε) (f : α → Outcome ε β) : (err e : Outcome ε α).bind f = err e := rfl
@[simp] theorem panic_bind (h : Hazard) (f : α → Outcome ε β) : (panic h : Outcome ε α).bind f = panic h := rfl
@[simp] theorem bind_ok_right (x : Outcome ε α) : x.bind ok = x := by cases x <;> rfl

theorem bind_ok_iff {x : Outcome ε α} {f : α → Outcome ε β} {b : β} :
    x.bind f = ok b ↔ ∃ a, x = ok a ∧ f a = ok b := by
  cases x <;> simp

/-- two steps whose values are combined -/
theorem bind₂_ok_iff {γ : Type} {x : Outcome ε α} {y : α → Outcome ε β} {g : α → β → γ} {c : γ} :
    (x.bind fun a => (y a).bind fun b => ok (g a b)) = ok c ↔ ∃ a b, x = ok a ∧ y a = ok b ∧ c = g a b := by
  simp only [bind_ok_iff, ok.injEq]
  exact ⟨fun ⟨a, ha, b, hb, h⟩ => ⟨a, b, ha, hb, h.symm⟩, fun ⟨a, b, ha, hb, h⟩ => ⟨a, ha, b, hb, h.symm⟩⟩

theorem bind_err_iff {x : Outcome ε α} {f : α → Outcome ε β} {e : ε} :
    x.bind f = err e ↔ x = err e ∨ ∃ a, x = ok a ∧ f a = err e := by
  cases x <;> simp

theorem bind_panic_iff {x : Outcome ε α} {f : α → Outcome ε β} {h : Hazard} :
    x.bind f = panic h ↔ x = panic h ∨ ∃ a, x = ok a ∧ f a = panic h := by
  cases x <;> simp

theorem bind_bind {γ : Type} (x : Outcome ε α) (f : α → Outcome ε β) (g : β → Outcome ε γ) :
    (x.bind f).bind g = x.bind fun a => (f a).bind g := by cases x <;> rfl

theorem ite_bind (c : Prop) [Decidable c] (x y : Outcome ε α) (f : α → Outcome ε β) :
    (if c then x else y).bind f = if c then x.bind f else y.bind f := by split <;> rfl

theorem ite_err_eq_ok {p : Prop} [Decidable p] {e : ε} {x : Outcome ε α} {a : α} :
    (if p then err e else x) = ok a ↔ ¬ p ∧ x = ok a := by
  split <;> simp [*]

theorem ite_panic_eq_ok {p : Prop} [Decidable p] {h : Hazard} {x : Outcome ε α} {a : α} :
    (if p then panic h else x) = ok a ↔ ¬ p ∧ x = ok a := by
  split <;> simp [*]

theorem ite_else_err_eq_ok {p : Prop} [Decidable p] {e : ε} {x : Outcome ε α} {a : α} :
    (if p then x else err e) = ok a ↔ p ∧ x = ok a := by
  split <;> simp [*]

theorem ite_else_panic_eq_ok {p : Prop} [Decidable p] {h : Hazard} {x : Outcome ε α} {a : α} :
    (if p then x else panic h) = ok a ↔ p ∧ x = ok a := by
  split <;> simp [*]

@[simp] theorem isPanic_ok (a : α) : (ok a : Outcome ε α).isPanic = false := rfl
@[simp] theorem isPanic_err (e : ε) : (err e : Outcome ε α).isPanic = false := rfl
@[simp] theorem isPanic_panic (h : Hazard) : (panic h : Outcome ε α).isPanic = true := rfl

theorem isPanic_bind {x : Outcome ε α} {f : α → Outcome ε β} (hx : x.isPanic = false)
    (hf : ∀ a, x = ok a → (f a).isPanic = false) : (x.bind f).isPanic = false := by
  cases x with
  | ok a => exact hf a rfl
  | err e => rfl
  | panic q => cases hx

theorem isPanic_ite (c : Prop) [Decidable c] (x y : Outcome ε α) :
    (if c then x else y).isPanic = if c then x.isPanic else y.isPanic := by split <;> rfl

theorem isPanic_guard {c : Prop} [Decidable c] {e : ε} {x : Outcome ε α} (h : x.isPanic = false) :
    (if c then .err e else x).isPanic = false := by
  split
  · rfl
  · exact h

end Outcome
end Pdlv
