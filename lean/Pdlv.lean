import Pdlv.Driver
import Pdlv.Thm.C01
import Pdlv.Thm.C02
import Pdlv.Thm.C03
import Pdlv.Thm.C03_conv
import Pdlv.Thm.C04
import Pdlv.Thm.C05
import Pdlv.Thm.C06
import Pdlv.Thm.C07
import Pdlv.Thm.C07_models
import Pdlv.Thm.C08
import Pdlv.Thm.C09
import Pdlv.Thm.C10
import Pdlv.Thm.C11
import Pdlv.Thm.C12
import Pdlv.Thm.C13
import Pdlv.Thm.C13_spec
import Pdlv.Thm.C14
import Pdlv.Thm.C14_cxx
import Pdlv.Thm.C15
import Pdlv.Thm.C16
import Pdlv.Thm.C17
import Pdlv.Thm.C18
import Pdlv.Thm.C19
import Pdlv.Thm.C19_dispatch
import Pdlv.Thm.C19_java
import Pdlv.Lemmas.JavaEnumArrays
